import SeqIoModel.Proofs.FastqFault
import SeqIoModel.Proofs.FastqHistoryGenuine
/-!
# C05 under faults (FASTQ): a successful `seek` restores the stream from ANY reachable state

`Theorems/C05.lean` (`fastq_seek_restores_stream`) covers histories over failure-free sources; here
the state is that after ANY well-formed history under ANY read script, scripted seek failures and
policy – in particular a state left behind by an error.  `GenM` holds in every reachable state;
`seek_cases` gives `Good inp False` for the items from `i` on after the successful seek; with a
failure-free remaining script this is `Good inp True` for the clean copy of the reader (`good_rws`),
which `next` cannot tell from the reader (`runNexts_clean`).  Then `runNexts_spec` applies.
-/

namespace SeqIo.Fastq
open SeqIo SeqIo.Spec SeqIo.FillProofs SeqIo.Fastq.Hist

/-! ## the state of M after a history -/

namespace Hist

def runMSt (m : MSt) : List Op → MSt
  | [] => m
  | op :: ops => runMSt (stepM m op).1 ops

theorem runMSt_eq_endM (m : MSt) (ops : List Op) : runMSt m ops = Fault.endM m ops := by
  induction ops generalizing m with
  | nil => rfl
  | cons op ops ih => exact ih _

theorem runM_append (m : MSt) (ops ops' : List Op) :
    runM m (ops ++ ops') = runM m ops ++ runM (runMSt m ops) ops' := by
  induction ops generalizing m with
  | nil => rfl
  | cons op ops ih =>
    show (stepM m op).2 :: runM (stepM m op).1 (ops ++ ops') = _
    rw [ih]
    rfl

theorem runMSt_append (m : MSt) (ops ops' : List Op) :
    runMSt m (ops ++ ops') = runMSt (runMSt m ops) ops' := by
  induction ops generalizing m with
  | nil => rfl
  | cons op ops ih => exact ih _

end Hist

theorem PolGrows.of_f {p q : Pol} (h : PolGrows p) (e : q.f = p.f) : PolGrows q := by
  intro hist cur hc
  rw [e]
  exact h hist cur hc

/-- the invariant of `fastq_history_genuine` holds in every reachable state, and the policy
function is the initial one -/
theorem genM_runMSt (inp : List UInt8) : ∀ (ops : List Op) (m : MSt), GenM inp m →
    (∀ op ∈ ops, op.wf = true) →
    GenM inp (runMSt m ops) ∧ (runMSt m ops).r.pol.f = m.r.pol.f := by
  intro ops
  induction ops with
  | nil => intro m h _; exact ⟨h, rfl⟩
  | cons op ops ih =>
    intro m h hops
    obtain ⟨h1, _⟩ := step_genuine inp m h op (hops op List.mem_cons_self)
    obtain ⟨h2, h3⟩ := ih _ h1 (fun o ho => hops o (List.mem_cons_of_mem _ ho))
    exact ⟨h2, h3.trans (Fault.stepM_polf m op)⟩

theorem reach_good (inp : List UInt8) (cap : Nat) (hcap : 3 ≤ cap) (pol : Pol) (hgrow : PolGrows pol)
    (script : List ReadEv) (chunk : Nat) (seekFails : List (Nat × IoKind)) (ops : List Op)
    (hops : ∀ op ∈ ops, op.wf = true) :
    ∃ j, Good inp False (runMSt (mkM inp cap pol script chunk seekFails) ops).r
        ((Spec.fastq inp).drop j) ∧
      PolGrows (runMSt (mkM inp cap pol script chunk seekFails) ops).r.pol := by
  obtain ⟨⟨⟨j, hg⟩, _⟩, hpf⟩ := genM_runMSt inp ops _
    (genM_mkM inp cap hcap pol hgrow.wf1 script chunk seekFails) hops
  exact ⟨j, hg, hgrow.of_f hpf⟩

/-! ## after a successful seek -/

theorem seek_ok_state {r r' : Reader} {l b : Nat} (h : seek r l b = (r', .ok ())) :
    r'.state = .positioned := by
  rw [Fault.seek_eq] at h
  unfold Fault.seekIn Fault.seekOut at h
  split at h
  · split at h <;> cases h
    rfl
  · split at h
    · cases h
    · split at h <;> cases h
      rfl

/-- a positioned reader that is good in an arbitrary environment (`G := False`) is – with a script
that does not fail and without scripted seek failures, which reads never look at – good in the
ideal environment -/
theorem good_rws {inp : List UInt8} {r : Reader} {its : List FqItem} {s : List ReadEv}
    (hg : Good inp False r its) (hst : r.state = .positioned) (hnf : NoFail s)
    (hgrow : PolGrows r.pol) : Good inp True (Fault.rws r s) its := by
  have hst' : (Fault.rws r s).state = .positioned := hst
  simp only [Good, hst] at hg
  simp only [Good, hst']
  obtain ⟨⟨hw, hp0⟩, he, hip, hits⟩ := hg
  obtain ⟨a, b, _, d, _, f, g, i, w, k, _⟩ := hw
  exact ⟨⟨⟨a, b, fun _ => hnf, d, fun _ => hgrow, f, g, i, w, k, fun _ => rfl⟩, hp0⟩, he, hip, hits⟩

/-- a `Par` without a failing tail: the "failing" machine has the failure-free script `y` and the
scripted seek failures `sf`, the clean machine the script `y` and no seek failures -/
def parNoFail (sf : List (Nat × IoKind)) : Fault.Par :=
  { k := 0, tail := [], T := [], nofail := noFail_nil, len := rfl, live := Or.inl rfl, sf := sf }

theorem observe_rws (r : Reader) (s : List ReadEv) (res : Res Bool) :
    observe (Fault.rws r s) res = observe r res := by
  cases res with
  | ok b => cases b <;> rfl
  | _ => rfl

theorem runNexts_clean (sf : List (Nat × IoKind)) : ∀ (k : Nat) (r : Reader) (y : List ReadEv),
    NoFail y → Fault.Sc (parNoFail sf) y r.br →
    runNexts k r = runNexts k (Fault.rws r (y ++ (parNoFail sf).T)) := by
  intro k
  induction k with
  | zero => intro r y _ _; rfl
  | succ k ih =>
    intro r y hy hs
    rw [runNexts, runNexts, show opFuel _ _ = Hist.fuelOf r from Fault.fuelOf_rws hs]
    rcases Fault.next_sim (parNoFail sf) (Hist.fuelOf r) r y hy hs with
      ⟨y', hy', hs', heq⟩ | ⟨kk, _, ⟨rest, hl⟩, _⟩
    · rw [heq]
      simp only
      rw [observe_rws, ← ih _ y' hy' hs']
      rfl
    · cases hl

/-! ## the theorems -/

/-- **C05 under faults, reader level.** From ANY reader state that is good in an arbitrary
environment (`Good inp False`, the invariant of `fastq_history_genuine`): a `seek` to the position of
item `i` of S that returns `Ok(())`, with a remaining read script that does not fail, is followed by
exactly S's stream from item `i` on. -/
theorem seek_restores_of_good {inp : List UInt8} {r r' : Reader} {its : List FqItem}
    (hg : Good inp False r its) (hgrow : PolGrows r.pol) (i : Nat) (it : FqItem)
    (hi : (Spec.fastq inp)[i]? = some it)
    (hseek : seek r (itemPos it).1 (itemPos it).2 = (r', .ok ())) (hnf : NoFail r'.br.src.script)
    (k : Nat) :
    runNexts k r' = ((specObs inp).drop i ++ List.replicate k Obs.none).take k := by
  obtain ⟨hb, hdrop⟩ := fastq_drop inp i it hi
  have hg' : Good inp False r' ((Spec.fastq inp).drop i) := by
    rcases seek_cases inp False r its hg (itemPos it).1 (itemPos it).2 hb with
      ⟨_, h2, _, _⟩ | ⟨_, ⟨kk, h2⟩, _⟩
    · rw [hseek, ← hdrop] at h2; exact h2
    · rw [hseek] at h2; cases h2
  have hpol : r'.pol.f = r.pol.f := by
    have := Fault.seek_polf r (itemPos it).1 (itemPos it).2
    rw [hseek] at this; exact this
  rw [specObs_eq, ← List.map_drop]
  exact (runNexts_clean r'.br.src.seekFails k r' _ hnf ⟨(List.append_nil _).symm, rfl⟩).trans
    (runNexts_spec inp k _ _ (good_rws hg' (seek_ok_state hseek) (noFail_append hnf noFail_nil)
      (hgrow.of_f hpol)))

/-- **C05, seek part, under faults (FASTQ).**  Take the state of M after ANY well-formed history
`ops` on a reader whose source follows ANY read script (failing and interrupted reads at any call),
with scripted seek failures.  If in that state the seek to the position of the `i`-th item of S – a
record, or the invalid group – returns `Ok(())`, and the read script that is left contains no
failure, then `k` further `next()` calls show exactly the items `i, i+1, …` of S (records with their
`position()`, then S's format error if there is one), followed by end of input – the same as
sequential reading shows from item `i` on. -/
theorem fastq_seek_restores_after_faults
    (inp : List UInt8) (cap : Nat) (hcap : 3 ≤ cap) (pol : Pol) (hgrow : PolGrows pol)
    (script : List ReadEv) (chunk : Nat) (seekFails : List (Nat × IoKind)) (ops : List Hist.Op)
    (hops : ∀ op ∈ ops, op.wf = true) (i : Nat) (hi : i < (Spec.fastq inp).length) :
    let s := Hist.runMSt (Hist.mkM inp cap pol script chunk seekFails) ops
    let it := (Spec.fastq inp)[i]
    ∀ r', seek s.r (Hist.itemPos it).1 (Hist.itemPos it).2 = (r', .ok ()) →
      NoFail r'.br.src.script →
      ∀ k, runNexts k r' = ((specObs inp).drop i ++ List.replicate k Obs.none).take k := by
  intro s it r' hseek hnf k
  obtain ⟨j, hg, hgrow'⟩ := reach_good inp cap hcap pol hgrow script chunk seekFails ops hops
  exact seek_restores_of_good hg hgrow' i it (List.getElem?_eq_getElem hi) hseek hnf k

/-- a seek that is observed as `done` was a seek to an item of S that returned `Ok(())` -/
theorem stepSeek_done {m : MSt} {i : Nat} (h : (stepSeek m i).2 = .done) :
    ∃ it, (Spec.fastq m.r.br.src.inp)[i]? = some it ∧
      seek m.r (itemPos it).1 (itemPos it).2 = ((stepSeek m i).1.r, .ok ()) := by
  unfold stepSeek at h ⊢
  split at h
  · cases h
  · rename_i it hit
    rw [hit]
    refine ⟨it, rfl, ?_⟩
    simp only at h ⊢
    generalize seek m.r (itemPos it).1 (itemPos it).2 = x at h ⊢
    rcases x with ⟨r', (_ | _ | _ | _)⟩ <;> first | rfl | cases h

/-- the same, phrased with the history operation `seekItem i`: if the well-formed history
`ops ++ [seekItem i]` ends with the observation `done` (= `Ok(())`) and no failure is left in the
script, the reads that follow show S's stream from item `i` on -/
theorem fastq_seekItem_restores_after_faults
    (inp : List UInt8) (cap : Nat) (hcap : 3 ≤ cap) (pol : Pol) (hgrow : PolGrows pol)
    (script : List ReadEv) (chunk : Nat) (seekFails : List (Nat × IoKind)) (ops : List Hist.Op)
    (hops : ∀ op ∈ ops, op.wf = true) (i : Nat) :
    let s := Hist.runMSt (Hist.mkM inp cap pol script chunk seekFails) (ops ++ [.seekItem i])
    (Hist.runM (Hist.mkM inp cap pol script chunk seekFails) (ops ++ [.seekItem i])).getLast? = some .done →
      NoFail s.r.br.src.script →
      ∀ k, runNexts k s.r = ((specObs inp).drop i ++ List.replicate k Obs.none).take k := by
  intro s hobs hnf k
  obtain ⟨j, hg, hgrow'⟩ := reach_good inp cap hcap pol hgrow script chunk seekFails ops hops
  rw [Hist.runM_append, show ∀ m, runM m [.seekItem i] = [(stepSeek m i).2] from fun _ => rfl,
    List.getLast?_append, List.getLast?_singleton, Option.some_or, Option.some.injEq] at hobs
  obtain ⟨it, hit, hsk⟩ := stepSeek_done hobs
  rw [good_inp hg] at hit
  have hs : s = (stepSeek (runMSt (mkM inp cap pol script chunk seekFails) ops) i).1 :=
    Hist.runMSt_append _ ops [.seekItem i]
  rw [hs] at hnf ⊢
  exact seek_restores_of_good hg hgrow' i it hit hsk hnf k

end SeqIo.Fastq

/-! ## non-vacuity: concrete data (checked by `decide`) -/

namespace SeqIo.Fastq.SeekAfterFaultExample
open SeqIo.Fastq.Hist

/-- `@a\nAC\n+\nII\n@b\nG\n+\nI\n@c\nGG\n+\nIIII\n`: two records, then a group with unequal lengths -/
def inp : List UInt8 :=
  [64, 97, 10, 65, 67, 10, 43, 10, 73, 73, 10, 64, 98, 10, 71, 10, 43, 10, 73, 10,
   64, 99, 10, 71, 71, 10, 43, 10, 73, 73, 73, 73, 10]

example : (Spec.fastq inp).map itemPos = [(1, 0), (5, 11), (9, 20)] := by decide +kernel

example : specObs inp =
    [.record [97] [65, 67] [73, 73] 1 0, .record [98] [71] [73] 5 11,
     .error (.unequalLengths 2 4 { line := 9, id := some [99] })] := by decide +kernel

/-- capacity 12; the first refill hands out 3 bytes and then fails -/
def m1 : MSt := mkM inp 12 PolDesc.std.toPol [.data 3, .fail 0] 0 []

/-- the error is observed by the first `next` (reader left `new` with the partly filled buffer `@a\n`);
then a seek to item 1 (a real seek of the source) and reads: record `b`, S's error, end -/
example : runM m1 [.next, .seekItem 1, .next, .next, .next] =
    [.error (.io 0), .done, .record { head := [98], seq := [71], qual := [73] },
     .error (.unequalLengths 2 4 { line := 9, id := some [99] }), .none] := by decide +kernel

example : (runMSt m1 [.next]).r.br.buf = [64, 97, 10] ∧ (runMSt m1 [.next]).r.state = .new := by decide +kernel

/-- a seek to item 0 takes the in-buffer branch, which first completes the partly filled buffer -/
example : runM m1 [.next, .seekItem 0, .next, .next, .next, .next] =
    [.error (.io 0), .done, .record { head := [97], seq := [65, 67], qual := [73, 73] },
     .record { head := [98], seq := [71], qual := [73] },
     .error (.unequalLengths 2 4 { line := 9, id := some [99] }), .none] := by decide +kernel

/-- the hypotheses of `fastq_seek_restores_after_faults` hold for `ops = [next]`, `i = 1` … -/
example : ∃ r', seek (runMSt m1 [.next]).r 5 11 = (r', .ok ()) ∧ FillProofs.NoFail r'.br.src.script := by
  have h2 : (seek (runMSt m1 [.next]).r 5 11).2 = .ok () := by decide +kernel
  have h3 : (seek (runMSt m1 [.next]).r 5 11).1.br.src.script = [] := by decide +kernel
  refine ⟨(seek (runMSt m1 [.next]).r 5 11).1, ?_, ?_⟩
  · rw [← h2]
  · rw [h3]; exact FillProofs.noFail_nil

/-- … and this is its conclusion for `k = 4`, computed on the concrete machine -/
example : runNexts 4 (seek (runMSt m1 [.next]).r 5 11).1 =
    [.record [98] [71] [73] 5 11, .error (.unequalLengths 2 4 { line := 9, id := some [99] }), .none, .none] := by
  decide +kernel

/-- a failure inside `resume_incomplete_search` (reader left `finished`), an interrupted read, an
in-buffer seek that succeeds although a failure is still ahead (the next read reports it: the
hypothesis "no failure left" is needed), a failing seek of the source (seek call 0, kind 9), and
finally a successful seek to the INVALID group, whose error is reproduced -/
def m2 : MSt :=
  mkM inp 12 PolDesc.std.toPol [.data 12, .intr, .data 9, .fail 7, .data 2, .fail 3] 0 [(0, 9)]

example : runM m2 [.next, .next, .pos, .seekItem 2, .next, .seekItem 0, .seekItem 2, .next, .next] =
    [.record { head := [97], seq := [65, 67], qual := [73, 73] }, .error (.io 7), .position 5 11, .done,
     .error (.io 3), .error (.io 9), .done,
     .error (.unequalLengths 2 4 { line := 9, id := some [99] }), .none] := by decide +kernel

example : (runMSt m2 [.next, .next]).r.state = .finished := by decide +kernel

/-- the same history, seeking back to the first record at the end -/
example : runM m2 [.next, .next, .pos, .seekItem 2, .next, .seekItem 0, .seekItem 0, .next, .next, .next, .next] =
    [.record { head := [97], seq := [65, 67], qual := [73, 73] }, .error (.io 7), .position 5 11, .done,
     .error (.io 3), .error (.io 9), .done,
     .record { head := [97], seq := [65, 67], qual := [73, 73] }, .record { head := [98], seq := [71], qual := [73] },
     .error (.unequalLengths 2 4 { line := 9, id := some [99] }), .none] := by decide +kernel

end SeqIo.Fastq.SeekAfterFaultExample

