import SeqIoModel.Proofs.FastaHistorySet
import SeqIoModel.Proofs.FastaHistorySeek
import SeqIoModel.Proofs.AbstractReader
/-!
# FASTA histories: every history of calls on one reader is accepted by the abstract reader A

`fasta_history_accepted` (C04, C05): the observations of every finite list of operations on one
reader are accepted by A, in order.  Induction along `HInv`, one operation at a time (`step_hinv`).
-/
open SeqIo SeqIo.FillProofs SeqIo.Spec

namespace SeqIo.Fasta.Hist

/-! ## evaluation of A -/

theorem batch_min {m n L k : Nat} (hle : k + m ≤ L) (h : m = n ∨ (m < n ∧ k + m = L)) :
    m = min n (L - k) := by
  omega

theorem acceptA_set {it : Items} {a : AState} {j : Nat} {n : Option Nat} (hn : n ≠ some 0) (o : ObsH) :
    acceptA it a (.set j n) o =
      if j < a.sets.length then
        match errDue it a with
        | some e =>
          if o = .error e then some { markOrEmpty a j with errDone := true, last := .other } else none
        | none =>
          match o with
          | .none =>
            if it.recs.length - a.k = 0 then some { markOrEmpty a j with last := .other } else none
          | .batch m =>
            if (match n with
                | none => decide (1 ≤ m ∧ m ≤ it.recs.length - a.k)
                | some n => decide (1 ≤ m ∧ m = min n (it.recs.length - a.k))) = true then
              some { a with k := a.k + m, sets := a.sets.set j { lo := a.k, len := m }, last := .set }
            else none
          | _ => none
      else if o = .done then some a else none := by
  cases n with
  | none => rfl
  | some n' =>
    cases n' with
    | zero => exact absurd rfl hn
    | succ _ => rfl

/-! ## the invariant between operations -/

/-- what `position()` shows, as A wants it -/
def LastOk (inp : List UInt8) (r : Reader) (a : AState) : Prop :=
  match a.last with
  | .record i => ∃ rc, (recsOf inp)[i]? = some rc ∧ position r = some (posOf rc)
  | .set => position r = none ∨ ∃ rc, (recsOf inp)[a.k]? = some rc ∧ position r = some (posOf rc)
  | .seek _ => position r = none
  | .other => True

/-- a live record set against what A expects of it -/
def SetInv (inp : List UInt8) (rs : RecordSet) (e : SetExp) : Prop :=
  SetOk inp rs e.lo e.len ∨ (e.orEmpty = true ∧ rs.npos = 0)

structure HInv (inp : List UInt8) (m : MSt) (a : AState) : Prop where
  rd : RInv inp m.r a.k
  sf : m.r.br.src.seekFails = []
  errNew : m.r.state = .new → a.errDone = false
  errOld : m.r.state ≠ .new → errDue (items inp) a = none
  last : LastOk inp m.r a
  len : m.sets.length = a.sets.length
  sets : ∀ (j : Nat) (rs : RecordSet) (e : SetExp), m.sets[j]? = some rs → a.sets[j]? = some e →
    SetInv inp rs e

theorem HInv.inp_eq {inp : List UInt8} {m : MSt} {a : AState} (h : HInv inp m a) :
    m.r.br.src.inp = inp := h.rd.win.b.inp_eq

theorem HInv.fuel {inp : List UInt8} {m : MSt} {a : AState} (h : HInv inp m a) :
    2 * inp.length + 2 < fuelOf m.r := by
  unfold fuelOf opFuel
  rw [h.inp_eq]
  omega

theorem rinv_new_k {inp : List UInt8} {r : Reader} {k : Nat} (h : RInv inp r k)
    (hst : r.state = .new) : k = 0 := by
  cases h with
  | fresh => rfl
  | parsing _ h => rw [h] at hst; cases hst
  | ready _ h => rcases h with h | h <;> rw [h] at hst <;> cases hst
  | finished h _ => rw [h.st] at hst; cases hst

theorem errDue_of_err_none {it : Items} {a : AState} (h : it.err = none) : errDue it a = none := by
  unfold errDue
  split
  · rfl
  · exact h

theorem HInv.errDue_new {inp : List UInt8} {m : MSt} {a : AState} (h : HInv inp m a)
    (hst : m.r.state = .new) : errDue (items inp) a = (items inp).err := by
  unfold errDue
  rw [h.errNew hst]
  rfl

theorem HInv.errDue_none {inp : List UInt8} {m : MSt} {a : AState} (h : HInv inp m a)
    (hn : m.r.state = .new → (items inp).err = none) : errDue (items inp) a = none := by
  by_cases hst : m.r.state = .new
  · rw [h.errDue_new hst]
    exact hn hst
  · exact h.errOld hst

/-- the outcome of one operation: the invariant holds again (for some abstract state), and the
observation is accepted by A, unless the policy refused to grow the buffer -/
def StepOk (inp : List UInt8) (m : MSt) (a : AState) (op : Op) (a' : AState) : Prop :=
  HInv inp (stepM m op).1 a' ∧ Frame m.r (stepM m op).1.r ∧
  (acceptA (items inp) a op (stepM m op).2 = some a' ∨
    ((stepM m op).2 = .error .bufferLimit ∧ ¬ PolGrows m.r.pol))

theorem hinv_reader {inp : List UInt8} {m : MSt} {a a' : AState} {r' : Reader} (h : HInv inp m a)
    (hfr : Frame m.r r') (hrd : RInv inp r' a'.k) (hnew : r'.state ≠ .new)
    (herr : errDue (items inp) a' = none) (hlast : LastOk inp r' a') (hsets : a'.sets = a.sets) :
    HInv inp { m with r := r' } a' :=
  ⟨hrd, by show r'.br.src.seekFails = []; rw [hfr.seekFails]; exact h.sf, fun h' => absurd h' hnew,
    fun _ => herr, hlast, by rw [hsets]; exact h.len, by rw [hsets]; exact h.sets⟩

theorem rinv_ne_new_of_lt {inp : List UInt8} {r : Reader} {k : Nat} (h : RInv inp r (k + 1)) :
    r.state ≠ .new := by
  intro hst
  have := rinv_new_k h hst
  omega

/-! ## `next` and owned `next` -/

theorem step_read {inp : List UInt8} {m : MSt} {a : AState} (h : HInv inp m a) (op : Op)
    (obsF : Reader → Res Bool → ObsH) (recO : FaRec → ObsH)
    (hstep : stepM m op = ({ m with r := (next (fuelOf m.r) m.r).1 },
      obsF (next (fuelOf m.r) m.r).1 (next (fuelOf m.r) m.r).2))
    (hobs_rec : ∀ (r' : Reader) (rc : FaRec), viewRec r'.br.buf r'.bp = some (view rc) →
      head r'.br.buf r'.bp = some rc.head → ownedSeq r'.br.buf r'.bp = some rc.seq →
      obsF r' (.ok true) = recO rc)
    (hobs_none : ∀ r', obsF r' (.ok false) = .none)
    (hobs_err : ∀ r' e, obsF r' (.err e) = .error e)
    (hacc : ∀ (a : AState) (o : ObsH), acceptA (items inp) a op o =
      match errDue (items inp) a with
      | some e => if o = .error e then some { a with errDone := true, last := .other } else none
      | none =>
        match (items inp).recs[a.k]? with
        | some rc => if o = recO rc then some { a with k := a.k + 1, last := .record a.k } else none
        | none => if o = .none then some { a with last := .other } else none) :
    ∃ a', StepOk inp m a op a' := by
  obtain ⟨r', res, hnext, hfr, hcase⟩ := next_rinv (fuel := fuelOf m.r) h.rd (by have := h.fuel; omega)
  unfold StepOk
  rw [hstep, hnext]
  simp only
  rcases hcase with (⟨hres, rc, hk, hv, hh, ho, hpos, hinv, hnn⟩ | ⟨hres, hng, hready, hst'⟩) |
    ⟨hres, hk, hfin, herr⟩ | ⟨ln, c, hres, hst, hfin, hrecs, herr⟩
  · subst hres
    have hlt : a.k < (recsOf inp).length := (List.getElem?_eq_some_iff.mp hk).1
    have hed : errDue (items inp) a = none := h.errDue_none (fun _ => err_none_of_lt hlt)
    refine ⟨{ a with k := a.k + 1, last := .record a.k }, ?_, hfr, Or.inl ?_⟩
    · exact hinv_reader h hfr hinv hnn hed ⟨rc, hk, hpos⟩ rfl
    · have hk' : (items inp).recs[a.k]? = some rc := hk
      rw [hobs_rec r' rc hv hh ho, hacc, hed]
      simp only [hk', if_true]
  · subst hres
    have hed : errDue (items inp) a = none := errDue_of_err_none (err_none_of_lt hready.pt.lt)
    refine ⟨{ a with last := .other }, ?_, hfr, Or.inr ⟨hobs_err _ _, hng⟩⟩
    exact hinv_reader h hfr (RInv.ready hready (Or.inr hst')) (by rw [hst']; intro h; cases h) hed
      trivial rfl
  · subst hres
    have hed : errDue (items inp) a = none := h.errDue_none herr
    refine ⟨{ a with last := .other }, ?_, hfr, Or.inl ?_⟩
    · exact hinv_reader h hfr (RInv.finished hfin hk) (by rw [hfin.st]; intro h; cases h) hed
        trivial rfl
    · have hk' : (items inp).recs[a.k]? = none := by rw [hk]; exact List.getElem?_eq_none (Nat.le_refl _)
      rw [hobs_none, hacc, hed]
      simp only [hk', if_true]
  · subst hres
    have hed : errDue (items inp) a = some (.invalidStart ln c) := by
      rw [h.errDue_new hst]; exact herr
    have hk0 : a.k = 0 := rinv_new_k h.rd hst
    refine ⟨{ a with errDone := true, last := .other }, ?_, hfr, Or.inl ?_⟩
    · exact hinv_reader h hfr (RInv.finished hfin (by show a.k = _; rw [hk0, hrecs]; rfl))
        (by rw [hfin.st]; intro h; cases h) (by simp [errDue]) trivial rfl
    · rw [hobs_err, hacc, hed]
      simp only [if_true]

theorem step_next {inp : List UInt8} {m : MSt} {a : AState} (h : HInv inp m a) :
    ∃ a', StepOk inp m a .next a' := by
  apply step_read h .next obsNext (fun rc => .record rc.head rc.seqLines) rfl
  · intro r' rc hv _ _
    simp only [obsNext, hv, view]
  · intro r'; rfl
  · intro r' e; rfl
  · intro a o; rfl

theorem step_owned {inp : List UInt8} {m : MSt} {a : AState} (h : HInv inp m a) :
    ∃ a', StepOk inp m a .owned a' := by
  apply step_read h .owned obsOwned (fun rc => .owned rc.head rc.seq) rfl
  · intro r' rc _ hh ho
    simp only [obsOwned, hh, ho]
  · intro r'; rfl
  · intro r' e; rfl
  · intro a o; rfl

/-! ## record set reads -/

theorem stepM_set_none {m : MSt} {j : Nat} {n : Option Nat} (hn : n ≠ some 0)
    (hj : m.sets[j]? = none) : stepM m (.set j n) = (m, .done) := by
  cases n with
  | none => simp only [stepM, hj]
  | some n' =>
    cases n' with
    | zero => exact absurd rfl hn
    | succ n'' => simp only [stepM, hj]

theorem stepM_set_some {m : MSt} {j : Nat} {n : Option Nat} {rs : RecordSet} (hn : n ≠ some 0)
    (hj : m.sets[j]? = some rs) :
    stepM m (.set j n) =
      ({ r := (readRecordSetExact (fuelOf m.r) m.r rs n).1,
         sets := m.sets.set j (readRecordSetExact (fuelOf m.r) m.r rs n).2.1 },
       obsSet (readRecordSetExact (fuelOf m.r) m.r rs n).2.1
         (readRecordSetExact (fuelOf m.r) m.r rs n).2.2) := by
  cases n with
  | none => simp only [stepM, hj]
  | some n' =>
    cases n' with
    | zero => exact absurd rfl hn
    | succ n'' => simp only [stepM, hj]

theorem hinv_set {inp : List UInt8} {m : MSt} {a a' : AState} {r' : Reader} {rs' : RecordSet}
    {j : Nat} {e' : SetExp} (h : HInv inp m a) (hfr : Frame m.r r') (hrd : RInv inp r' a'.k)
    (hnew : r'.state ≠ .new) (herr : errDue (items inp) a' = none) (hlast : LastOk inp r' a')
    (hsets : a'.sets = a.sets.set j e') (hset : SetInv inp rs' e') :
    HInv inp { r := r', sets := m.sets.set j rs' } a' := by
  refine ⟨hrd, by show r'.br.src.seekFails = []; rw [hfr.seekFails]; exact h.sf,
    fun h' => absurd h' hnew, fun _ => herr, hlast, ?_, ?_⟩
  · show (m.sets.set j rs').length = a'.sets.length
    rw [hsets, List.length_set, List.length_set]; exact h.len
  · intro j' rs e h1 h2
    replace h1 : (m.sets.set j rs')[j']? = some rs := h1
    rw [hsets] at h2
    rw [List.getElem?_set] at h1 h2
    by_cases hjj : j = j'
    · rw [if_pos hjj] at h1 h2
      split at h1
      · split at h2
        · cases h1; cases h2; exact hset
        · cases h2
      · cases h1
    · rw [if_neg hjj] at h1 h2
      exact h.sets j' rs e h1 h2

theorem markOrEmpty_sets {a : AState} {j : Nat} {e : SetExp} (he : a.sets[j]? = some e) :
    (markOrEmpty a j).sets = a.sets.set j { e with orEmpty := true } := by
  simp only [markOrEmpty, he]

theorem setInv_orEmpty {inp : List UInt8} {rs : RecordSet} {e : SetExp} (h : SetInv inp rs e) :
    SetInv inp rs { e with orEmpty := true } := by
  rcases h with h | ⟨_, h⟩
  · exact Or.inl h
  · exact Or.inr ⟨rfl, h⟩

theorem step_set {inp : List UInt8} {m : MSt} {a : AState} (h : HInv inp m a) (j : Nat)
    (n : Option Nat) : ∃ a', StepOk inp m a (.set j n) a' := by
  unfold StepOk
  by_cases hn : n = some 0
  · subst hn
    exact ⟨a, h, Frame.refl _, Or.inl rfl⟩
  cases hj : m.sets[j]? with
  | none =>
    rw [stepM_set_none hn hj]
    have : ¬ j < a.sets.length := by
      rw [← h.len]
      intro hlt
      rw [List.getElem?_eq_getElem hlt] at hj
      cases hj
    exact ⟨a, h, Frame.refl _, Or.inl (by rw [acceptA_set hn, if_neg this, if_pos rfl])⟩
  | some rs =>
    have hja : j < a.sets.length := by rw [← h.len]; exact (List.getElem?_eq_some_iff.mp hj).1
    obtain ⟨e, hje⟩ : ∃ e, a.sets[j]? = some e := ⟨_, List.getElem?_eq_getElem hja⟩
    have hold := h.sets j rs e hj hje
    rw [stepM_set_some hn hj]
    obtain ⟨r', rs', res, hread, hfr, hcase⟩ := readSet_rinv h.rd h.fuel rs n hn
    rw [hread]
    simp only
    rcases hcase with ⟨hres, hbuf, hg, herr⟩ | ⟨hres, hrs, hk, hfin, herr⟩ |
      ⟨ln, c, hres, hrs, hst, hfin, hrecs, herr⟩ | ⟨hres, hng, h0, herr, k', hinv', hnn'⟩
    · subst hres
      have hed := h.errDue_none herr
      have hkle := hg.inv.k_le
      refine ⟨{ a with k := a.k + rs'.npos, sets := a.sets.set j { lo := a.k, len := rs'.npos },
                       last := .set }, ?_, hfr, Or.inl ?_⟩
      · exact hinv_set h hfr hg.inv hg.st hed hg.position rfl
          (Or.inl (setOk_of_acc (.ofWin hg.inv.win) hg.acc hbuf))
      · have hkle' : a.k + rs'.npos ≤ (items inp).recs.length := hkle
        have hpos := hg.pos
        rw [acceptA_set hn, if_pos hja, hed]
        cases n with
        | none =>
          have := Nat.le_sub_of_add_le' hkle'
          simp only [obsSet, hpos, this, and_self, decide_true, if_true]
        | some n' =>
          have := batch_min hkle' (hg.exact n' rfl)
          simp only [obsSet, hpos, ← this, and_self, decide_true, if_true]
    · subst hres
      have hed := h.errDue_none herr
      refine ⟨{ markOrEmpty a j with last := .other }, ?_, hfr, Or.inl ?_⟩
      · exact hinv_set h hfr (by show RInv inp r' (markOrEmpty a j).k; rw [markOrEmpty_k]; exact RInv.finished hfin hk)
          (by rw [hfin.st]; intro h; cases h)
          (by show errDue (items inp) _ = none
              unfold errDue at hed ⊢
              simp only [markOrEmpty_errDone]; exact hed)
          trivial (markOrEmpty_sets hje) (by rw [hrs]; exact setInv_orEmpty hold)
      · have h0 : (items inp).recs.length - a.k = 0 := by
          show (recsOf inp).length - a.k = 0
          rw [hk]; exact Nat.sub_self _
        rw [acceptA_set hn, if_pos hja, hed]
        simp only [obsSet, h0, if_true]
    · subst hres
      have hed : errDue (items inp) a = some (.invalidStart ln c) := by
        rw [h.errDue_new hst]; exact herr
      have hk0 : a.k = 0 := rinv_new_k h.rd hst
      refine ⟨{ markOrEmpty a j with errDone := true, last := .other }, ?_, hfr, Or.inl ?_⟩
      · exact hinv_set h hfr
          (by show RInv inp r' (markOrEmpty a j).k; rw [markOrEmpty_k]
              exact RInv.finished hfin (by rw [hk0, hrecs]; rfl))
          (by rw [hfin.st]; intro h; cases h) (by simp [errDue]) trivial (markOrEmpty_sets hje)
          (by rw [hrs]; exact setInv_orEmpty hold)
      · rw [acceptA_set hn, if_pos hja, hed]
        simp only [obsSet, if_true]
    · subst hres
      refine ⟨{ a with k := k', sets := a.sets.set j { e with orEmpty := true }, last := .other },
        ?_, hfr, Or.inr ⟨rfl, hng⟩⟩
      exact hinv_set h hfr hinv' hnn' (h.errDue_none herr) trivial rfl (Or.inr ⟨rfl, h0⟩)

/-! ## iteration over a set, `position`, `seek` -/

theorem obsDump_empty {rs : RecordSet} (h : rs.npos = 0) : obsDump rs = .dump [] := by
  simp [obsDump, h, allSome]

theorem step_dump {inp : List UInt8} {m : MSt} {a : AState} (h : HInv inp m a) (j : Nat) :
    ∃ a', StepOk inp m a (.dump j) a' := by
  unfold StepOk
  cases hj : m.sets[j]? with
  | none =>
    have hja : a.sets[j]? = none := by
      rw [List.getElem?_eq_none_iff] at hj ⊢
      rw [← h.len]; exact hj
    refine ⟨a, by simp only [stepM, hj]; exact h, by simp only [stepM, hj]; exact Frame.refl _, Or.inl ?_⟩
    simp only [stepM, hj, acceptA, hja, if_true]
  | some rs =>
    have hjl : j < a.sets.length := by rw [← h.len]; exact (List.getElem?_eq_some_iff.mp hj).1
    obtain ⟨e, hje⟩ : ∃ e, a.sets[j]? = some e := ⟨_, List.getElem?_eq_getElem hjl⟩
    refine ⟨a, by simp only [stepM, hj]; exact h, by simp only [stepM, hj]; exact Frame.refl _, Or.inl ?_⟩
    simp only [stepM, hj, acceptA, hje]
    rcases h.sets j rs e hj hje with hok | ⟨he, h0⟩
    · have : obsDump rs = .dump ((((items inp).recs.drop e.lo).take e.len).map view) := hok
      rw [if_pos (Or.inl this)]
    · rw [if_pos (Or.inr ⟨he, obsDump_empty h0⟩)]

theorem step_pos {inp : List UInt8} {m : MSt} {a : AState} (h : HInv inp m a) :
    ∃ a', StepOk inp m a .pos a' := by
  refine ⟨a, h, Frame.refl _, Or.inl ?_⟩
  show acceptA (items inp) a .pos (.pos (position m.r)) = some a
  have hl := h.last
  unfold LastOk at hl
  unfold acceptA
  simp only
  cases hlast : a.last with
  | record i =>
    rw [hlast] at hl
    obtain ⟨rc, h1, h2⟩ := hl
    have h1' : (items inp).recs[i]? = some rc := h1
    simp [h1', h2]
  | set =>
    rw [hlast] at hl
    rcases hl with h1 | ⟨rc, h1, h2⟩
    · simp [h1]
    · have h1' : (items inp).recs[a.k]? = some rc := h1
      simp [h1', h2]
  | seek i =>
    rw [hlast] at hl
    simp only at hl
    simp [hl]
  | other => simp

theorem step_seek {inp : List UInt8} {m : MSt} {a : AState} (h : HInv inp m a) (i : Nat) :
    ∃ a', StepOk inp m a (.seekRec i) a' := by
  unfold StepOk
  have hinp := h.inp_eq
  cases hi : (recsOf inp)[i]? with
  | none =>
    have hi' : (items m.r.br.src.inp).recs[i]? = none := by rw [hinp]; exact hi
    have hlt : ¬ i < (items inp).recs.length := Nat.not_lt.mpr (List.getElem?_eq_none_iff.mp hi)
    refine ⟨a, by simp only [stepM, hi']; exact h, by simp only [stepM, hi']; exact Frame.refl _, Or.inl ?_⟩
    simp only [stepM, hi', acceptA, hlt, if_false, if_true]
  | some rc =>
    have hi' : (items m.r.br.src.inp).recs[i]? = some rc := by rw [hinp]; exact hi
    have hlt : i < (items inp).recs.length := (List.getElem?_eq_some_iff.mp hi).1
    obtain ⟨r', hseek, hfr, hready, hst, hsq⟩ := seek_rinv h.rd h.sf i rc hi
    simp only [stepM, hi', hseek]
    refine ⟨{ a with k := i, last := .seek i }, ?_, hfr, Or.inl ?_⟩
    · refine hinv_reader h hfr (RInv.ready hready (Or.inl hst)) (by rw [hst]; intro h; cases h)
        (errDue_of_err_none (err_none_of_lt hlt)) ?_ rfl
      show position r' = none
      unfold position
      rw [hsq]; rfl
    · simp only [obsSeek, acceptA, hlt, if_true]

/-- **every operation preserves the invariant and is accepted by A** (or is a refusal) -/
theorem step_hinv {inp : List UInt8} {m : MSt} {a : AState} (h : HInv inp m a) (op : Op) :
    ∃ a', StepOk inp m a op a' := by
  cases op with
  | next => exact step_next h
  | owned => exact step_owned h
  | set j n => exact step_set h j n
  | dump j => exact step_dump h j
  | pos => exact step_pos h
  | seekRec i => exact step_seek h i

/-! ## the initial state -/

theorem hinv_init (inp : List UInt8) (cap : Nat) (hcap : 3 ≤ cap) (pol : Pol) (hpol : PolWfPos pol)
    (script : List ReadEv) (hs : NoFail script) (chunk : Nat) :
    HInv inp (mkMSt inp cap pol script chunk) aInit := by
  have hw : Win inp (mkReader inp cap pol script chunk) := by
    refine ⟨⟨rfl, Nat.le_refl _, Nat.zero_le _, ?_, hcap, Nat.zero_le _, hs⟩, hpol⟩
    simp [baseB, mkReader]
  refine ⟨RInv.fresh ⟨hw, rfl, rfl, rfl, rfl, rfl, rfl, rfl⟩, rfl, fun _ => rfl,
    fun h => absurd rfl h, trivial, rfl, ?_⟩
  intro j rs e h1 h2
  have hrs : rs ∈ [({} : RecordSet), {}, {}] := List.mem_of_getElem? h1
  have he : e ∈ [({} : SetExp), {}, {}] := List.mem_of_getElem? h2
  simp only [List.mem_cons, List.not_mem_nil, or_false, or_self] at hrs he
  subst hrs he
  exact Or.inl rfl

/-! ## the theorems -/

theorem runA_cons (it : Items) (a a' : AState) (op : Op) (ops : List Op) (o : ObsH) (os : List ObsH)
    (h : acceptA it a op o = some a') : runA it a (op :: ops) (o :: os) = runA it a' ops os := by
  simp only [runA, h]

theorem runM_accepted {inp : List UInt8} : ∀ (ops : List Op) (m : MSt) (a : AState),
    HInv inp m a → PolGrows m.r.pol → runA (items inp) a ops (runM m ops) = true := by
  intro ops
  induction ops with
  | nil => intro m a _ _; rfl
  | cons op ops ih =>
    intro m a h hpol
    obtain ⟨a', hinv', hfr, hacc⟩ := step_hinv h op
    rcases hacc with hacc | ⟨_, hng⟩
    · rw [runM, runA_cons _ _ _ _ _ _ _ hacc]
      exact ih _ _ hinv' (polGrows_congr hfr.polf hpol)
    · exact absurd hpol hng

/-- **C04 + C05.** Every finite history of `next`, owned `next`, `read_record_set`,
`read_record_set_exact`, iteration over live record sets, `position` and `seek` to record positions,
on every input, with every capacity ≥ 3, every policy that never refuses a request with a positive
capacity, every failure-free read script and chunk limit, is accepted by the abstract reader A:
the records of S are delivered in order exactly once from the last seek target onwards, with the
content they have when read singly; sets hold exactly their batch; positions are S's. -/
theorem fasta_history_accepted (inp : List UInt8) (cap : Nat) (hcap : 3 ≤ cap) (pol : Pol)
    (hpol : PolGrows pol) (script : List ReadEv) (hs : NoFail script) (chunk : Nat)
    (ops : List Op) :
    runA (items inp) aInit ops (runM (mkMSt inp cap pol script chunk) ops) = true :=
  runM_accepted ops _ _ (hinv_init inp cap hcap pol hpol.wfPos script hs chunk) hpol

def NoSeek (ops : List Op) : Prop := ∀ op ∈ ops, ∀ i, op ≠ Op.seekRec i

theorem fasta_history_accepted_noseek (inp : List UInt8) (cap : Nat) (hcap : 3 ≤ cap) (pol : Pol)
    (hpol : PolGrows pol) (script : List ReadEv) (hs : NoFail script) (chunk : Nat)
    (ops : List Op) (_h : NoSeek ops) :
    runA (items inp) aInit ops (runM (mkMSt inp cap pol script chunk) ops) = true :=
  fasta_history_accepted inp cap hcap pol hpol script hs chunk ops

theorem fasta_history_accepted_std (inp : List UInt8) (cap : Nat) (hcap : 3 ≤ cap)
    (script : List ReadEv) (hs : NoFail script) (chunk : Nat) (ops : List Op) :
    runA (items inp) aInit ops (runM (mkMSt inp cap PolDesc.std.toPol script chunk) ops) = true :=
  fasta_history_accepted inp cap hcap _ polGrows_std script hs chunk ops

/-- with a policy that may refuse (`PolWfPos`): every history is accepted by A up to the first
`BufferLimit` error, and that error is the only possible deviation -/
theorem runM_accepted_until_refusal {inp : List UInt8} : ∀ (ops : List Op) (m : MSt) (a : AState),
    HInv inp m a →
    ∃ j, j ≤ ops.length ∧ runA (items inp) a (ops.take j) ((runM m ops).take j) = true ∧
      (j < ops.length → (runM m ops)[j]? = some (.error .bufferLimit)) := by
  intro ops
  induction ops with
  | nil => intro m a _; exact ⟨0, Nat.le_refl _, rfl, fun h => absurd h (Nat.lt_irrefl _)⟩
  | cons op ops ih =>
    intro m a h
    obtain ⟨a', hinv', _, hacc⟩ := step_hinv h op
    rcases hacc with hacc | ⟨hobs, _⟩
    · obtain ⟨j, hj, hrun, hlim⟩ := ih _ _ hinv'
      refine ⟨j + 1, by simp only [List.length_cons]; omega, ?_, ?_⟩
      · rw [runM, List.take_succ_cons, List.take_succ_cons, runA_cons _ _ _ _ _ _ _ hacc]
        exact hrun
      · intro hlt
        rw [runM, List.getElem?_cons_succ]
        exact hlim (by simp only [List.length_cons] at hlt; omega)
    · refine ⟨0, Nat.zero_le _, rfl, fun _ => ?_⟩
      rw [runM, List.getElem?_cons_zero, hobs]

theorem fasta_history_accepted_until_refusal (inp : List UInt8) (cap : Nat) (hcap : 3 ≤ cap)
    (pol : Pol) (hpol : PolWfPos pol) (script : List ReadEv) (hs : NoFail script) (chunk : Nat)
    (ops : List Op) :
    ∃ j, j ≤ ops.length ∧
      runA (items inp) aInit (ops.take j) ((runM (mkMSt inp cap pol script chunk) ops).take j) = true ∧
      (j < ops.length →
        (runM (mkMSt inp cap pol script chunk) ops)[j]? = some (.error .bufferLimit)) :=
  runM_accepted_until_refusal ops _ _ (hinv_init inp cap hcap pol hpol script hs chunk)

end SeqIo.Fasta.Hist
