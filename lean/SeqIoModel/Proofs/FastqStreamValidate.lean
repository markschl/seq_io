import SeqIoModel.Proofs.FastqStreamLines
import SeqIoModel.Proofs.FastqStreamVerdict
/-!
# `validate`, the views and `get_error_pos` against `Spec.fqGroup`

When the four lines of a record are laid out in the buffer (`Rec4`), `validate` reaches the verdict
of `Spec.fqGroup` on the four pieces between the line starts, and on success the views show the
record of S (`validate_spec`).
-/

namespace SeqIo.Fastq
open SeqIo SeqIo.Spec SeqIo.WriteProofs

structure Rec4 (buf : List UInt8) (bp : BufPos) : Prop where
  h1 : bp.pos0 < bp.seq
  h2 : bp.seq < bp.sep
  h3 : bp.sep < bp.qual
  h4 : bp.qual ≤ bp.pos1
  h5 : bp.pos1 ≤ buf.length
  lf1 : buf[bp.seq - 1]? = some LF
  lf3 : buf[bp.qual - 1]? = some LF

theorem Rec4.p01 {buf : List UInt8} {bp : BufPos} (h : Rec4 buf bp) : bp.pos0 < bp.pos1 :=
  Nat.lt_of_lt_of_le (Nat.lt_trans (Nat.lt_trans h.h1 h.h2) h.h3) h.h4

def hP (buf : List UInt8) (bp : BufPos) : List UInt8 := piece buf bp.pos0 bp.seq
def sP (buf : List UInt8) (bp : BufPos) : List UInt8 := piece buf bp.seq bp.sep
def pP (buf : List UInt8) (bp : BufPos) : List UInt8 := piece buf bp.sep bp.qual
def qP (buf : List UInt8) (bp : BufPos) : List UInt8 := piece buf bp.qual (bp.pos1 + 1)

theorem piece_headD (t : List UInt8) (a b : Nat) (hab : a < b) (hb : b ≤ t.length)
    (hlf : t[b - 1]? = some LF) : t[a]? = some ((piece t a b).headD LF) := by
  by_cases h : a = b - 1
  · have : piece t a b = [] := by
      simp only [piece, List.drop_eq_nil_iff, List.length_take]; omega
    rw [this, h, hlf]; rfl
  · have hlt : a < b - 1 := by omega
    rw [List.headD_eq_head?_getD]
    simp only [piece, List.head?_drop, List.getElem?_take, hlt, if_true]
    have : a < t.length := by omega
    simp [this]

theorem piece_eq_nil_iff (t : List UInt8) (a b : Nat) (hb : b ≤ t.length) :
    piece t a b = [] ↔ b - 1 ≤ a := by
  rw [← List.length_eq_zero_iff, piece_length t a b (by omega)]; omega

theorem piece_drop_one (t : List UInt8) (a b : Nat) : (piece t a b).drop 1 = piece t (a + 1) b := by
  simp only [piece, List.drop_drop]

theorem csub_of_le {a b : Nat} (h : b ≤ a) : csub a b = some (a - b) := by
  simp only [csub]; rw [if_pos h]

theorem slice_of_le {buf : List UInt8} {a b : Nat} (h : a ≤ b) (hb : b ≤ buf.length) :
    slice buf a b = some ((buf.take b).drop a) := by
  simp only [slice]; rw [if_pos ⟨h, hb⟩]

/-- `get_error_pos` with `parse_id = true` reports `errId` of the header piece -/
theorem getErrorPos_true (r : Reader) (off : Nat) (h1 : r.bp.pos0 < r.bp.seq)
    (hs : r.bp.seq ≤ r.br.buf.length) :
    getErrorPos r off true = some { line := r.line + off, id := errId (hP r.br.buf r.bp) } := by
  have hc : csub r.bp.seq r.bp.pos0 = some (r.bp.seq - r.bp.pos0) := csub_of_le (by omega)
  have hc1 : csub r.bp.seq 1 = some (r.bp.seq - 1) := csub_of_le (by omega)
  simp only [getErrorPos, if_true, hc]
  by_cases hd : r.bp.seq - r.bp.pos0 > 1
  · have hsl : slice r.br.buf (r.bp.pos0 + 1) (r.bp.seq - 1) =
        some (piece r.br.buf (r.bp.pos0 + 1) r.bp.seq) := slice_of_le (by omega) (by omega)
    have he : ¬ piece r.br.buf r.bp.pos0 r.bp.seq = [] := by
      rw [piece_eq_nil_iff _ _ _ hs]; omega
    rw [if_pos hd]
    simp only [head, hc1, hsl, Option.map_some, errId, List.isEmpty_iff, he, if_false, hP,
      piece_drop_one]
  · have he : hP r.br.buf r.bp = [] := by
      rw [hP, piece_eq_nil_iff _ _ _ hs]; omega
    rw [if_neg hd]
    simp only [errId, he, List.isEmpty_nil, if_true]

theorem getErrorPos_false (r : Reader) (off : Nat) :
    getErrorPos r off false = some { line := r.line + off, id := none } := by
  simp [getErrorPos]

/-- `validate` as a chain of tests on values read from the buffer -/
theorem validate_eq (r : Reader) (c0 c2 : UInt8) (sq ql : List UInt8) (e0 e2 : ErrPos)
    (g0 : r.br.buf[r.bp.pos0]? = some c0) (g2 : r.br.buf[r.bp.sep]? = some c2)
    (hseq : seq r.br.buf r.bp = some sq) (hqual : qual r.br.buf r.bp = some ql)
    (hq : r.bp.qual ≤ r.bp.pos1) (hs : r.bp.seq ≤ r.bp.sep)
    (he0 : getErrorPos { r with state := .finished } 0 true = some e0)
    (he2 : getErrorPos { r with state := .finished } 2 true = some e2) :
    validate r =
      if c0 ≠ AT then ({ r with state := .finished }, .err (.invalidStart c0 { line := r.line, id := none }))
      else if c2 ≠ PLUS then ({ r with state := .finished }, .err (.invalidSep c2 e2))
      else if r.bp.sep - r.bp.seq ≠ r.bp.pos1 - r.bp.qual + 1 ∧ sq.length ≠ ql.length then
        ({ r with state := .finished }, .err (.unequalLengths sq.length ql.length e0))
      else (r, .ok ()) := by
  simp only [validate, g0, g2, csub_of_le hq, csub_of_le hs, hseq, hqual, he0, he2,
    getErrorPos_false, Nat.add_zero]
  by_cases c0h : c0 ≠ AT
  · rw [if_pos c0h, if_pos c0h]
  · rw [if_neg c0h, if_neg c0h]
    by_cases c2h : c2 ≠ PLUS
    · rw [if_pos c2h, if_pos c2h]
    · rw [if_neg c2h, if_neg c2h]
      by_cases hr : r.bp.sep - r.bp.seq ≠ r.bp.pos1 - r.bp.qual + 1
      · rw [if_pos hr]
        by_cases hl : sq.length ≠ ql.length
        · rw [if_pos hl, if_pos ⟨hr, hl⟩]
        · rw [if_neg hl, if_neg (fun h => hl h.2)]
      · rw [if_neg hr, if_neg (fun h => hr h.1)]

/-- `validate` computes the verdict of `Spec.fqGroup` on the four pieces, and on success the
views show the record of `S`. -/
theorem validate_spec (r : Reader) (hrec : Rec4 r.br.buf r.bp) :
    match fqGroup false (hP r.br.buf r.bp) (sP r.br.buf r.bp) (pP r.br.buf r.bp) (qP r.br.buf r.bp)
        r.byte r.line with
    | .record x => validate r = (r, .ok ()) ∧ head r.br.buf r.bp = some x.head ∧
        seq r.br.buf r.bp = some x.seq ∧ qual r.br.buf r.bp = some x.qual ∧
        x.byte = r.byte ∧ x.line = r.line
    | .err e b l => validate r = ({ r with state := .finished }, .err (specErr e)) ∧
        b = r.byte ∧ l = r.line := by
  obtain ⟨h1, h2, h3, h4, h5, lf1, lf3⟩ := hrec
  have g0 : r.br.buf[r.bp.pos0]? = some ((hP r.br.buf r.bp).headD LF) :=
    piece_headD r.br.buf r.bp.pos0 r.bp.seq h1 (by omega) lf1
  have g2 : r.br.buf[r.bp.sep]? = some ((pP r.br.buf r.bp).headD LF) :=
    piece_headD r.br.buf r.bp.sep r.bp.qual h3 (by omega) lf3
  have hseq : seq r.br.buf r.bp = some (trimCr (sP r.br.buf r.bp)) := by
    simp only [seq, csub_of_le (show 1 ≤ r.bp.sep by omega),
      slice_of_le (show r.bp.seq ≤ r.bp.sep - 1 by omega) (show r.bp.sep - 1 ≤ r.br.buf.length by omega)]
    rfl
  have hqual : qual r.br.buf r.bp = some (trimCr (qP r.br.buf r.bp)) := by
    simp only [qual, slice_of_le h4 h5]
    rfl
  have hsl : (sP r.br.buf r.bp).length = r.bp.sep - 1 - r.bp.seq :=
    piece_length r.br.buf r.bp.seq r.bp.sep (by omega)
  have hql : (qP r.br.buf r.bp).length = r.bp.pos1 - r.bp.qual := by
    rw [qP, piece_length r.br.buf r.bp.qual (r.bp.pos1 + 1) (by omega)]; omega
  have hraw : r.bp.sep - r.bp.seq ≠ r.bp.pos1 - r.bp.qual + 1 ↔
      (sP r.br.buf r.bp).length ≠ (qP r.br.buf r.bp).length := by
    rw [hsl, hql]; omega
  have ge0 := getErrorPos_true { r with state := .finished } 0 h1 (by simp only; omega)
  have ge2 := getErrorPos_true { r with state := .finished } 2 h1 (by simp only; omega)
  rw [validate_eq r _ _ _ _ _ _ g0 g2 hseq hqual h4 (by omega) ge0 ge2, fqGroup_false_eq]
  by_cases c0 : (hP r.br.buf r.bp).headD LF ≠ AT
  · rw [if_pos c0, if_pos c0]
    exact ⟨rfl, rfl, rfl⟩
  · rw [if_neg c0, if_neg c0]
    by_cases c2 : (pP r.br.buf r.bp).headD LF ≠ PLUS
    · rw [if_pos c2, if_pos c2]
      exact ⟨rfl, rfl, rfl⟩
    · rw [if_neg c2, if_neg c2]
      by_cases cl : ((sP r.br.buf r.bp).length ≠ (qP r.br.buf r.bp).length ∨ false = true) ∧
          (trimCr (sP r.br.buf r.bp)).length ≠ (trimCr (qP r.br.buf r.bp)).length
      · have cr : (sP r.br.buf r.bp).length ≠ (qP r.br.buf r.bp).length := by
          rcases cl.1 with a | a
          · exact a
          · cases a
        rw [if_pos cl, if_pos ⟨hraw.mpr cr, cl.2⟩]
        exact ⟨rfl, rfl, rfl⟩
      · have cl' : ¬ (r.bp.sep - r.bp.seq ≠ r.bp.pos1 - r.bp.qual + 1 ∧
            (trimCr (sP r.br.buf r.bp)).length ≠ (trimCr (qP r.br.buf r.bp)).length) := by
          intro hh
          exact cl ⟨Or.inl (hraw.mp hh.1), hh.2⟩
        rw [if_neg cl, if_neg cl']
        have hhead : head r.br.buf r.bp = some (trimCr ((hP r.br.buf r.bp).drop 1)) := by
          have hne : r.bp.pos0 + 1 ≤ r.bp.seq - 1 := by
            by_cases hh : r.bp.pos0 = r.bp.seq - 1
            · exfalso
              have : hP r.br.buf r.bp = [] := by
                rw [hP, piece_eq_nil_iff r.br.buf _ _ (by omega)]; omega
              rw [this] at c0
              exact c0 (by decide)
            · omega
          simp only [head, csub_of_le (show 1 ≤ r.bp.seq by omega),
            slice_of_le hne (show r.bp.seq - 1 ≤ r.br.buf.length by omega), hP, piece_drop_one]
          rfl
        exact ⟨rfl, hhead, hseq, hqual, rfl, rfl⟩

end SeqIo.Fastq
