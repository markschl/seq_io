import SeqIoModel.Proofs.FastaStream
/-!
# FASTA reader: bookkeeping of the policy requests of one `next` call (C09 / C18)

Read off `next_step` under `InvW` (states reachable by `next` calls before any `BufferLimit`, policy
possibly refusing): the log grows by a `LogChain` that starts with the capacity on entry
(`next_growth_log`), requests are made only for a record that does not fit the capacity passed
(`only_when_unfit`), `BufferLimit` is reported iff the last request was refused
(`bufferLimit_iff_refused`); if every record fits the initial capacity the policy is never asked
(`fitting_never_grows`).
-/
open SeqIo SeqIo.FillProofs SeqIo.Spec

namespace SeqIo.Fasta

/-! ## `LogChain` -/

theorem LogChain.head_eq {c0 cf : Nat} {e : Nat × Option Nat} {rest : List (Nat × Option Nat)}
    (h : LogChain c0 (e :: rest) cf) : e.1 = c0 := by
  rcases e with ⟨c, _ | n⟩
  · exact h.1
  · exact h.1

theorem LogChain.nil_iff {c0 cf : Nat} : LogChain c0 [] cf ↔ cf = c0 := Iff.rfl

theorem LogChain.cons_some {c0 cf c n : Nat} {rest : List (Nat × Option Nat)} :
    LogChain c0 ((c, some n) :: rest) cf ↔ c = c0 ∧ LogChain n rest cf := Iff.rfl

theorem LogChain.cons_none {c0 cf c : Nat} {rest : List (Nat × Option Nat)} :
    LogChain c0 ((c, none) :: rest) cf ↔ c = c0 ∧ rest = [] ∧ cf = c0 := Iff.rfl

theorem logChain_final_cap {c0 cf : Nat} {new : List (Nat × Option Nat)} (h : LogChain c0 new cf) :
    cf = (new.filterMap (·.2)).getLastD c0 := by
  induction new generalizing c0 with
  | nil => exact h
  | cons e rest ih =>
    rcases e with ⟨c, _ | n⟩
    · obtain ⟨_, hr, hc⟩ := h
      subst hr
      simpa using hc
    · show cf = (n :: rest.filterMap (·.2)).getLastD c0
      rw [List.getLastD_cons]
      exact ih h.2

theorem logChain_none_last {c0 cf : Nat} {new : List (Nat × Option Nat)} (h : LogChain c0 new cf)
    {pre post : List (Nat × Option Nat)} {c : Nat} (hn : new = pre ++ (c, none) :: post) :
    post = [] := by
  induction pre generalizing c0 new with
  | nil =>
    subst hn
    exact h.2.1
  | cons e pre ih =>
    subst hn
    rcases e with ⟨x, _ | n⟩
    · have := h.2.1
      simp at this
    · exact ih h.2 rfl

/-! ## one `next` call -/

/-- **C09/C18.** the log of one `next` call -/
theorem next_growth_log {inp : List UInt8} {r : Reader} {fuel : Nat} (h : InvW inp r)
    (hfuel : inp.length < fuel) :
    ∃ new, (next fuel r).1.log = r.log ++ new ∧
      LogChain r.br.cap new (next fuel r).1.br.cap ∧ (next fuel r).1.pol.f = r.pol.f := by
  obtain ⟨rest, h⟩ := h
  obtain ⟨r', res, new, hn, hg, _, _⟩ := next_step h hfuel
  rw [hn]
  exact ⟨new, hg.log, hg.chain, hg.polf⟩

theorem cap_unchanged_without_request {inp : List UInt8} {r : Reader} {fuel : Nat}
    (h : InvW inp r) (hfuel : inp.length < fuel) (hlog : (next fuel r).1.log = r.log) :
    (next fuel r).1.br.cap = r.br.cap := by
  obtain ⟨new, hl, hc, _⟩ := next_growth_log h hfuel
  rw [hlog] at hl
  have : new = [] := by
    have := congrArg List.length hl
    simp only [List.length_append] at this
    exact List.eq_nil_of_length_eq_zero (by omega)
  subst this
  exact hc

theorem logChain_mono {c0 cf : Nat} {new : List (Nat × Option Nat)} (h : LogChain c0 new cf)
    (hwf : ∀ e ∈ new, ∀ n, e.2 = some n → e.1 < n) : c0 ≤ cf := by
  induction new generalizing c0 with
  | nil => exact Nat.le_of_eq h.symm
  | cons e rest ih =>
    rcases e with ⟨c, _ | n⟩
    · exact Nat.le_of_eq h.2.2.symm
    · have h1 := hwf (c, some n) (by simp) n rfl
      have h2 := ih h.2 (fun e he => hwf e (by simp [he]))
      have := h.1
      simp only at h1
      omega

/-- **C09.** requests are made only while the record being parsed does not fit: `s` is the
absolute start of that record, `recExtent inp s` its extent up to and including the terminator
before the next record (or up to the end of the input); one byte more is needed for the look-ahead
(or to see the end of the input). -/
theorem only_when_unfit {inp : List UInt8} {r : Reader} {fuel : Nat} (h : InvW inp r)
    (hfuel : inp.length < fuel) (new : List (Nat × Option Nat))
    (hlog : (next fuel r).1.log = r.log ++ new) (hne : new ≠ []) :
    ∃ s, RecStart inp s ∧ ∀ e ∈ new, e.1 < recExtent inp s + 1 := by
  obtain ⟨rest, h⟩ := h
  obtain ⟨r', res, new', hn, hg, hun, _⟩ := next_step h hfuel
  rw [hn, hg.log] at hlog
  have : new' = new := List.append_cancel_left hlog
  subst this
  exact hun hne

/-- **C09.** `BufferLimit` is reported iff the policy refused the last request of the call -/
theorem bufferLimit_iff_refused {inp : List UInt8} {r : Reader} {fuel : Nat} (h : InvW inp r)
    (hfuel : inp.length < fuel) :
    (next fuel r).2 = .err .bufferLimit ↔
      ∃ pre c, (next fuel r).1.log = r.log ++ (pre ++ [(c, none)]) := by
  obtain ⟨rest, h⟩ := h
  obtain ⟨r', res, new, hn, hg, _, hcase, -⟩ := next_step h hfuel
  rw [hn]
  constructor
  · intro hres
    rcases hcase with hgood | href
    · exact absurd hres hgood.res_ne
    · obtain ⟨_, ⟨pre, c, hnew⟩, _⟩ := href
      exact ⟨pre, c, by rw [hg.log, hnew]⟩
  · rintro ⟨pre, c, hlog⟩
    rw [hg.log] at hlog
    have hnew : new = pre ++ [(c, none)] := List.append_cancel_left hlog
    rcases hcase with hgood | href
    · exact absurd rfl (hgood.granted (c, none) (by rw [hnew]; simp))
    · exact href.1

theorem bufferLimit_policy_refused {inp : List UInt8} {r : Reader} {fuel : Nat} (h : InvW inp r)
    (hfuel : inp.length < fuel) (hres : (next fuel r).2 = .err .bufferLimit) :
    ∃ hist c, 1 ≤ c ∧ r.pol.f (hist ++ [c]) = none := by
  obtain ⟨rest, h⟩ := h
  obtain ⟨r', res, new, hn, hg, _, hcase, -⟩ := next_step h hfuel
  rw [hn] at hres
  rcases hcase with hgood | href
  · exact absurd hres hgood.res_ne
  · exact href.2.2

/-! ## inputs whose records all fit the buffer -/

/-- every record of S fits the capacity, including the look-ahead byte -/
def Fits (inp : List UInt8) (cap : Nat) : Prop := ∀ s, RecStart inp s → recExtent inp s + 1 ≤ cap

def runState : Nat → Reader → Reader
  | 0, r => r
  | k + 1, r => runState k (next (opFuel r.br.src.inp.length r.br.src.script.length) r).1

theorem runState_fits {inp : List UInt8} : ∀ (k : Nat) (r : Reader) (rest : List Obs),
    InvR inp r rest → Fits inp r.br.cap →
    (runState k r).log = r.log ∧ (runState k r).br.cap = r.br.cap ∧ InvW inp (runState k r) := by
  intro k
  induction k with
  | zero => intro r rest h _; exact ⟨rfl, rfl, rest, h⟩
  | succ k ih =>
    intro r rest h hfit
    have hinp : r.br.src.inp = inp := h.win.b.inp_eq
    obtain ⟨r', res, new, hn, hg, hun, hcase, -⟩ :=
      next_step (fuel := opFuel r.br.src.inp.length r.br.src.script.length) h
        (by rw [hinp]; exact opFuel_gt _ _)
    have hnil : new = [] := by
      cases hnew : new with
      | nil => rfl
      | cons e rest' =>
        exfalso
        obtain ⟨s, hrs, hlt⟩ := hun (by rw [hnew]; exact List.cons_ne_nil _ _)
        have h1 := hlt e (by rw [hnew]; simp)
        have h2 : e.1 = r.br.cap := by
          have := hg.chain
          rw [hnew] at this
          exact this.head_eq
        have := hfit s hrs
        omega
    subst hnil
    have hcap : r'.br.cap = r.br.cap := hg.chain
    have hlog : r'.log = r.log := by rw [hg.log, List.append_nil]
    rw [runState]
    simp only [hn]
    rcases hcase with hgood | href
    · obtain ⟨h1, h2, h3⟩ := ih r' _ hgood.inv (by rw [hcap]; exact hfit)
      exact ⟨by rw [h1, hlog], by rw [h2, hcap], h3⟩
    · obtain ⟨_, ⟨pre, c, hp⟩, _⟩ := href
      exact absurd hp (by simp)

/-- **C18.** if every record of the input fits the buffer (extent + 1 ≤ capacity), the policy is
never asked and the capacity never changes, whatever the policy -/
theorem fitting_never_grows (inp : List UInt8) (cap : Nat) (hcap : 3 ≤ cap) (pol : Pol)
    (hpol : PolWfPos pol) (script : List ReadEv) (hs : NoFail script) (chunk : Nat) (k : Nat)
    (hfit : Fits inp cap) :
    (runState k (mkReader inp cap pol script chunk)).log = [] ∧
      (runState k (mkReader inp cap pol script chunk)).br.cap = cap := by
  obtain ⟨h1, h2, _⟩ := runState_fits k _ _ (invR_mkReader inp cap hcap pol hpol script hs chunk) hfit
  exact ⟨h1, h2⟩

end SeqIo.Fasta
