import SeqIoModel.Proofs.FastaHistorySeek
/-!
# The weak reader invariant (refills and seeks may fail), `next`, `seek`

`WRInv inp r`: `r` is a state that some history of calls can leave behind when refills may fail
and the policy may refuse.  Nothing is said about WHICH record comes next (after a failure
records may be skipped) – only that a pending record is a record of S.

`KInv inp r k` is the same invariant with the index `k` of the pending record exposed.  The
operations are specified for `KInv`: a read moves the cursor forward only, and what it delivers
is the record the cursor pointed to.
-/
open SeqIo SeqIo.FillProofs SeqIo.Spec

namespace SeqIo.Fasta.Hist

def IoOrLimit (res : Res Bool) : Prop := res = .err .bufferLimit ∨ ∃ k, res = .err (.io k)

theorem IoOrLimit.ne_panic {res : Res Bool} (h : IoOrLimit res) : res ≠ .panic ∧ res ≠ .fuel := by
  rcases h with h | ⟨k, h⟩ <;> rw [h] <;> exact ⟨fun h => (by cases h), fun h => (by cases h)⟩

theorem NewF.of_br {inp : List UInt8} {r : Reader} (h : NewF inp r) {br2 : BufRd}
    (hwb2 : WinF inp br2) (hbase : baseB br2 = baseB r.br) : NewF inp { r with br := br2 } := by
  have hb : base { r with br := br2 } = base r := hbase
  refine ⟨⟨hwb2, h.win.pol⟩, ?_, ?_, h.sq, h.start⟩
  · show r.byte = base { r with br := br2 }; rw [hb]; exact h.byte_eq
  · unfold SkipRel; rw [hb]; exact h.skip

/-! ## the weak reader invariant -/

/-- some record of S is pending: it starts at `r.byte` (line `r.line`) -/
structure ReadyF (inp : List UInt8) (r : Reader) : Prop where
  win : WinR inp r
  scan : ScanSt inp r r.byte
  pt : ∃ k, Pt inp k r.byte r.line

structure ParsedF (inp : List UInt8) (r : Reader) : Prop where
  win : WinR inp r
  eof : Eof inp r
  start_le : r.bp.start ≤ r.searchPos
  sp_le : r.searchPos ≤ r.br.buf.length
  byte_eq : r.byte = r.bp.start + base r
  pt : ∃ k, Pt inp k (r.searchPos + base r) (r.line + r.bp.seqPos.length)

inductive WRInv (inp : List UInt8) : Reader → Prop
  | fresh {r : Reader} : NewF inp r → r.state = .new → WRInv inp r
  | parsing {r : Reader} : ParsedF inp r → r.state = .parsing → WRInv inp r
  | positioned {r : Reader} : ReadyF inp r → Eof inp r → r.state = .positioned → WRInv inp r
  | incomplete {r : Reader} : ReadyF inp r → r.state = .incomplete → WRInv inp r
  | finished {r : Reader} : WinR inp r → r.byte = r.bp.start + base r → r.state = .finished →
      WRInv inp r

theorem WRInv.win {inp : List UInt8} {r : Reader} (h : WRInv inp r) : WinR inp r := by
  cases h with
  | fresh h _ => exact h.win
  | parsing h _ => exact h.win
  | positioned h _ _ => exact h.win
  | incomplete h _ => exact h.win
  | finished h _ _ => exact h

theorem WRInv.byte_eq {inp : List UInt8} {r : Reader} (h : WRInv inp r) :
    r.byte = r.bp.start + base r := by
  cases h with
  | fresh h _ => rw [h.byte_eq, h.start, Nat.zero_add]
  | parsing h _ => exact h.byte_eq
  | positioned h _ _ => exact h.scan.start_eq.symm
  | incomplete h _ => exact h.scan.start_eq.symm
  | finished _ h _ => exact h

theorem wrinv_extend {inp : List UInt8} {r : Reader} (h : WRInv inp r) (br2 : BufRd)
    (hwb2 : WinF inp br2) (hbase : baseB br2 = baseB r.br) (hlen : r.br.buf.length ≤ br2.buf.length)
    (heof : EofB inp r.br → EofB inp br2) : WRInv inp { r with br := br2 } := by
  have hb : base { r with br := br2 } = base r := hbase
  cases h with
  | fresh h hst => exact WRInv.fresh (h.of_br hwb2 hbase) hst
  | parsing h hst =>
    refine WRInv.parsing ⟨⟨hwb2, h.win.pol⟩, heof h.eof, h.start_le, ?_, ?_, ?_⟩ hst
    · exact Nat.le_trans h.sp_le hlen
    · show r.byte = r.bp.start + base { r with br := br2 }; rw [hb]; exact h.byte_eq
    · show ∃ k, Pt inp k (r.searchPos + base { r with br := br2 }) _; rw [hb]; exact h.pt
  | positioned h he hst =>
    exact WRInv.positioned ⟨⟨hwb2, h.win.pol⟩, scanSt_of_br h.scan hb rfl rfl hlen, h.pt⟩ (heof he) hst
  | incomplete h hst =>
    exact WRInv.incomplete ⟨⟨hwb2, h.win.pol⟩, scanSt_of_br h.scan hb rfl rfl hlen, h.pt⟩ hst
  | finished h hbyte hst =>
    refine WRInv.finished ⟨hwb2, h.pol⟩ ?_ hst
    show r.byte = r.bp.start + base { r with br := br2 }; rw [hb]; exact hbyte

/-! ## the invariant with the cursor -/

/-- a record has been returned; record `k` starts at `search_pos` -/
structure ParsedK (inp : List UInt8) (r : Reader) (k : Nat) : Prop where
  win : WinR inp r
  eof : Eof inp r
  start_le : r.bp.start ≤ r.searchPos
  sp_le : r.searchPos ≤ r.br.buf.length
  byte_eq : r.byte = r.bp.start + base r
  pt : Pt inp k (r.searchPos + base r) (r.line + r.bp.seqPos.length)

/-- `WRInv` with the cursor: `k` is the index of the next record of S that a read can deliver.  In
state `finished` nothing is delivered any more (without a seek) and every `k` is admitted; that is
why the operations are specified with `k ≤ j` for the record `j` they deliver. -/
inductive KInv (inp : List UInt8) : Reader → Nat → Prop
  | fresh {r : Reader} : NewF inp r → r.state = .new → KInv inp r 0
  | parsing {r : Reader} {k : Nat} : ParsedK inp r k → r.state = .parsing → KInv inp r k
  | positioned {r : Reader} {k : Nat} : ReadyK inp r k → Eof inp r → r.state = .positioned →
      KInv inp r k
  | incomplete {r : Reader} {k : Nat} : ReadyK inp r k → r.state = .incomplete → KInv inp r k
  | finished {r : Reader} {k : Nat} : WinR inp r → r.byte = r.bp.start + base r →
      r.state = .finished → KInv inp r k

theorem KInv.toW {inp : List UInt8} {r : Reader} {k : Nat} (h : KInv inp r k) : WRInv inp r := by
  cases h with
  | fresh h hst => exact WRInv.fresh h hst
  | parsing h hst =>
    exact WRInv.parsing ⟨h.win, h.eof, h.start_le, h.sp_le, h.byte_eq, ⟨k, h.pt⟩⟩ hst
  | positioned h he hst => exact WRInv.positioned ⟨h.win, h.scan, ⟨k, h.pt⟩⟩ he hst
  | incomplete h hst => exact WRInv.incomplete ⟨h.win, h.scan, ⟨k, h.pt⟩⟩ hst
  | finished hw hb hst => exact WRInv.finished hw hb hst

theorem WRInv.exists_k {inp : List UInt8} {r : Reader} (h : WRInv inp r) : ∃ k, KInv inp r k := by
  cases h with
  | fresh h hst => exact ⟨0, KInv.fresh h hst⟩
  | parsing h hst =>
    obtain ⟨k, hk⟩ := h.pt
    exact ⟨k, KInv.parsing ⟨h.win, h.eof, h.start_le, h.sp_le, h.byte_eq, hk⟩ hst⟩
  | positioned h he hst =>
    obtain ⟨k, hk⟩ := h.pt
    exact ⟨k, KInv.positioned ⟨h.win, h.scan, hk⟩ he hst⟩
  | incomplete h hst =>
    obtain ⟨k, hk⟩ := h.pt
    exact ⟨k, KInv.incomplete ⟨h.win, h.scan, hk⟩ hst⟩
  | finished hw hb hst => exact ⟨0, KInv.finished hw hb hst⟩

theorem ParsedK.ready_incRec {inp : List UInt8} {r : Reader} {k : Nat} (h : ParsedK inp r k) :
    ReadyK inp (incRec r) k :=
  readyK_incRec h.win h.byte_eq h.start_le h.sp_le h.pt

/-! ## a record that is shown to the caller -/

/-- the record the reader currently points to is record `k` of S -/
def GenRecK (inp : List UInt8) (r' : Reader) (k : Nat) : Prop :=
  ∃ rc, (recsOf inp)[k]? = some rc ∧ viewRec r'.br.buf r'.bp = some (view rc) ∧
    head r'.br.buf r'.bp = some rc.head ∧ ownedSeq r'.br.buf r'.bp = some rc.seq

theorem GenRecK.obs {inp : List UInt8} {r' : Reader} {k : Nat} (h : GenRecK inp r' k) :
    ∃ rc, (recsOf inp)[k]? = some rc ∧ obsNext r' (.ok true) = .record rc.head rc.seqLines ∧
      obsOwned r' (.ok true) = .owned rc.head rc.seq := by
  obtain ⟨rc, hk, hv, hh, ho⟩ := h
  exact ⟨rc, hk, by simp only [obsNext, hv, view], by simp only [obsOwned, hh, ho]⟩

theorem mem_of_getElem? {α : Type} {l : List α} {i : Nat} {x : α} (h : l[i]? = some x) : x ∈ l :=
  List.mem_of_getElem? h

/-- the record `k` that starts at `s` has been found completely: it is what the reader shows, and
record `k + 1` starts at `search_pos` unless the input ends -/
theorem recDone_coreK {inp : List UInt8} {r' : Reader} {k s ln : Nat} (hw' : WinR inp r')
    (he' : Eof inp r') (hd : RecDone inp r' s) (hp : Pt inp k s ln) (hb : r'.byte = s)
    (hl : r'.line = ln) :
    GenRecK inp r' k ∧
      ((ParsedK inp r' (k + 1) ∧ r'.state ≠ .finished) ∨
       (r'.state = .finished ∧ r'.byte = r'.bp.start + base r')) := by
  subst hb hl
  obtain ⟨rc, hk, -, hv, hH, ho, -, hcase⟩ := recDone_pt hw'.b hd hp
  refine ⟨⟨rc, hk, hv, hH, ho⟩, hcase.imp ?_ ?_⟩
  · rintro ⟨hnf, hsl, hsple, hp1⟩
    exact ⟨⟨hw', he', hsl, hsple, hd.start_eq.symm, hp1⟩, hnf⟩
  · rintro ⟨hfin, -⟩
    exact ⟨hfin, hd.start_eq.symm⟩

/-! ## `next` -/

/-- the outcome of a read of one record when record `j` was pending: record `j` is delivered and
the cursor is `j + 1`, or nothing is delivered and the cursor stays -/
def NextOut (inp : List UInt8) (j : Nat) (r' : Reader) (res : Res Bool) : Prop :=
  (res = .ok true ∧ GenRecK inp r' j ∧ KInv inp r' (j + 1)) ∨
  ((res = .ok false ∨ ∃ e, res = .err e) ∧ KInv inp r' j)

theorem NextOut.toW {inp : List UInt8} {j : Nat} {r' : Reader} {res : Res Bool}
    (h : NextOut inp j r' res) : WRInv inp r' := by
  rcases h with ⟨_, _, h⟩ | ⟨_, h⟩ <;> exact h.toW

theorem nextContK {inp : List UInt8} {r : Reader} {fuel k : Nat} (h : ReadyK inp r k)
    (hst : (r.state = .parsing ∧ Eof inp r) ∨ r.state = .incomplete) (hfuel : inp.length < fuel) :
    ∃ r' res, nextCont fuel r = (r', res) ∧ r'.pol.f = r.pol.f ∧ NextOut inp k r' res := by
  obtain ⟨r', res, new, hres, hk, hw', -, -, hcase⟩ := nextCont_gen h.win h.scan hst hfuel
  refine ⟨r', res, hres, hk.polf, ?_⟩
  rcases hcase with ⟨rfl, -, he', hd, hst', -⟩ | ⟨hs', hst', hfail⟩
  · obtain ⟨hg, hc⟩ := recDone_coreK hw' he' hd h.pt hk.byte hk.line
    refine Or.inl ⟨rfl, hg, ?_⟩
    rcases hc with ⟨hpar, hnf⟩ | ⟨hfin, hbyte⟩
    · exact KInv.parsing hpar (hst'.resolve_right hnf)
    · exact KInv.finished hw' hbyte hfin
  · refine Or.inr ⟨Or.inr ?_, KInv.incomplete
      ⟨hw', by rw [hk.byte]; exact hs', by rw [hk.byte, hk.line]; exact h.pt⟩ hst'⟩
    rcases hfail with h' | ⟨k', h', -⟩
    · exact ⟨_, h'.1⟩
    · exact ⟨_, h'⟩

/-- the state dispatch from any state reachable under I/O failures and refusals: record `k` is
pending, or the call ends here and the cursor stays -/
theorem enter_kinv {inp : List UInt8} {r : Reader} {fuel k : Nat} (h : KInv inp r k)
    (hfuel : inp.length < fuel) (st : State) :
    ∃ r1 res, enter fuel st r = (r1, res) ∧ r1.pol.f = r.pol.f ∧
      ((res = .ok true ∧ ReadyK inp r1 k ∧ ((r1.state = st ∧ Eof inp r1) ∨ r1.state = .incomplete)) ∨
       ((res = .ok false ∨ ∃ e, res = .err e) ∧ KInv inp r1 k)) := by
  cases h with
  | fresh hf hst =>
    obtain ⟨r1, res1, hinit, hfr1, hw1, -, hcase⟩ := init_gen hf hfuel
    rcases hcase with ⟨k, rfl, -, hf1, hst1⟩ | ⟨rfl, he, hs, hp, -, -⟩ | ⟨hst1, -, hb, hres⟩
    · exact ⟨r1, .err (.io k), by simp only [enter, hst, hinit], hfr1.polf,
        Or.inr ⟨Or.inr ⟨_, rfl⟩, KInv.fresh hf1 (hst1.trans hst)⟩⟩
    · exact ⟨{ r1 with state := st }, _, by simp only [enter, hst, hinit], hfr1.polf,
        Or.inl ⟨rfl, ⟨⟨hw1.b, hw1.pol⟩, scanSt_of_br hs rfl rfl rfl (Nat.le_refl _), hp⟩,
          Or.inl ⟨rfl, he⟩⟩⟩
    · refine ⟨r1, res1, ?_, hfr1.polf, Or.inr ⟨?_, KInv.finished hw1 hb hst1⟩⟩
      · rcases hres with ⟨rfl, -⟩ | ⟨ln, c, rfl, -⟩ <;> simp only [enter, hst, hinit]
      · rcases hres with ⟨rfl, -⟩ | ⟨ln, c, rfl, -⟩
        · exact Or.inl rfl
        · exact Or.inr ⟨_, rfl⟩
  | parsing hp hst0 =>
    exact ⟨{ incRec r with state := st }, _,
      by simp only [enter, hst0, incrementRecord_eq r hp.start_le], rfl,
      Or.inl ⟨rfl, hp.ready_incRec.withState st, Or.inl ⟨rfl, hp.eof⟩⟩⟩
  | positioned hr he hst0 =>
    exact ⟨{ r with state := st }, _, by simp only [enter, hst0], rfl,
      Or.inl ⟨rfl, hr.withState st, Or.inl ⟨rfl, he⟩⟩⟩
  | incomplete hr hst0 =>
    exact ⟨r, _, by simp only [enter, hst0], rfl, Or.inl ⟨rfl, hr, Or.inr hst0⟩⟩
  | finished hw hb hst0 =>
    exact ⟨r, _, by simp only [enter, hst0], rfl, Or.inr ⟨Or.inl rfl, KInv.finished hw hb hst0⟩⟩

/-- **one `next` call from any state reachable under I/O failures and refusals**: no panic, no
fuel exhaustion; a delivered record is record `j ≥ k` of S and the cursor moves to `j + 1`;
otherwise the cursor does not move backwards -/
theorem nextK {inp : List UInt8} {r : Reader} {fuel k : Nat} (h : KInv inp r k)
    (hfuel : inp.length < fuel) :
    ∃ r' res j, next fuel r = (r', res) ∧ r'.pol.f = r.pol.f ∧ k ≤ j ∧ NextOut inp j r' res := by
  obtain ⟨r1, res1, hent, hpf1, ⟨rfl, hr1, hst1⟩ | ⟨hres, hinv⟩⟩ := enter_kinv h hfuel .parsing
  · obtain ⟨r', res, hnc, hpf, hout⟩ := nextContK hr1 hst1 hfuel
    exact ⟨r', res, k, by rw [next_enter, hent]; exact hnc, hpf.trans hpf1, Nat.le_refl _, hout⟩
  · refine ⟨r1, res1, k, ?_, hpf1, Nat.le_refl _, Or.inr ⟨hres, hinv⟩⟩
    rw [next_enter, hent]
    rcases hres with rfl | ⟨e, rfl⟩ <;> rfl

/-! ## `seek` -/

/-- seeking to the position of a record of S, from any state, with seeks and refills that may
fail: afterwards that record is pending, or the call failed and left a consistent state -/
theorem seekF {inp : List UInt8} {r : Reader} (h : WRInv inp r) (i : Nat) (rc : FaRec)
    (hrc : (recsOf inp)[i]? = some rc) :
    ∃ r' res, seek r rc.line rc.byte = (r', res) ∧ r'.pol.f = r.pol.f ∧ WRInv inp r' ∧
      (res = .ok () ∨ ∃ k, res = .err (.io k)) := by
  obtain ⟨r', res, hseek, hpf, -, hcase⟩ := seek_gen h.win h.byte_eq i rc hrc
  refine ⟨r', res, hseek, hpf, ?_⟩
  rcases hcase with ⟨rfl, hr, he, hst, -, -⟩ |
    ⟨k, rfl, -, ⟨br2, rfl, hwb2, hb2, hlen2, heof2⟩ | ⟨hw', hb', hst'⟩⟩
  · exact ⟨WRInv.positioned ⟨hr.win, hr.scan, ⟨i, hr.pt⟩⟩ he hst, Or.inl rfl⟩
  · exact ⟨wrinv_extend h br2 hwb2 hb2 hlen2 heof2, Or.inr ⟨k, rfl⟩⟩
  · exact ⟨WRInv.finished hw' hb' hst', Or.inr ⟨k, rfl⟩⟩

end SeqIo.Fasta.Hist
