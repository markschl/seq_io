import SeqIoModel.Proofs.FastqGrowth
/-!
# Growth bookkeeping of FASTQ record-set reads (C09)

The loop of `read_record_set_exact` composes the chains of requests of its `resume` calls into one
chain.  In plain mode (`n = none`, the buffer may be shifted throughout) the loop enters `resume`
only while the set is still empty, so every request is made while the FIRST group of the batch does
not fit; for exact-count reads only the chain part (well-formed chain, `BufferLimit` iff the last
request was refused) is claimed.
-/

namespace SeqIo.Fastq
open SeqIo SeqIo.Spec SeqIo.FillProofs SeqIo.Fastq.Hist

/-! ## the loop -/

/-- growth bookkeeping of the loop of `read_record_set_exact` started at reader `r` with the set
`rs`: the log is extended by a well-formed chain of requests, `BufferLimit` is returned iff the last
request was refused; in plain mode (`n = none`) every request is made while the set is still empty
and the group at `r.byte` – the first one of the batch – does not fit into the capacity passed; and
a loop entered at the start of a group stops at the start of a group -/
def SetLog (inp : List UInt8) (n : Option Nat) (r : Reader) (rs : RecordSet)
    (x : Reader × RecordSet × Res Bool) : Prop :=
  Reqs (fun c => n = none → rs.positions = [] ∧ ¬ Fits (inp.drop r.byte) c) r x.1 x.2.2 ∧
    ((r.state = .positioned → IsStart inp r.byte) →
      x.1.state = .positioned → IsStart inp x.1.byte)

theorem SetLog.same {inp n r rs} {rs' : RecordSet} {res : Res Bool}
    (hr : res ≠ .err .bufferLimit) : SetLog inp n r rs (r, rs', res) :=
  ⟨Reqs.same rfl rfl hr, fun h => h⟩

/-- **the loop of `read_record_set(_exact)`: growth bookkeeping.**  `isNew = true` (the buffer
may be shifted) is the mode of plain reads throughout. -/
theorem setLoop_log (inp : List UInt8) (G : Prop) (fuel : Nat) (hfuel : inp.length + 2 ≤ fuel)
    (n : Option Nat) (f : Nat) :
    ∀ (isNew : Bool) (r : Reader) (rs : RecordSet) (its : List FqItem),
      LoopSt inp G r its →
      (n = none → isNew = true) →
      (n = none → r.state = .positioned → r.incompletePos ≠ none → rs.positions = []) →
      SetLog inp n r rs (setLoop f fuel n isNew r rs) := by
  induction f with
  | zero => intro isNew r rs its _ _ _; exact SetLog.same nofun
  | succ f ih =>
    intro isNew r rs its ⟨hg, hst⟩ hmode hnew
    rw [setLoop_eq]
    rcases hst with hst | hst
    rotate_left
    · rw [if_pos hst]
      exact SetLog.same nofun
    have hnf : ¬ r.state = .finished := by rw [hst]; nofun
    rw [if_neg hnf]
    rcases findNext_spec isNew hg hst hfuel with ⟨hipv, bp', ip', hs, hl1⟩ | ⟨hF, -, hL, hne⟩
    · -- a new search stops at the end of the buffer
      simp only [findNext, hipv, hs, Option.isSome_none, Bool.false_eq_true, if_false]
      unfold afterMiss
      by_cases hemp : rs.positions.isEmpty = true
      · rw [if_pos hemp]
        exact ih isNew _ rs its hl1 hmode fun _ _ _ => List.isEmpty_iff.mp hemp
      · rw [if_neg hemp]
        cases n with
        | none => exact SetLog.same nofun
        | some n' =>
          dsimp only
          split
          · exact ih false _ rs its hl1 nofun nofun
          · exact SetLog.same nofun
    rcases hx : findNext fuel isNew r with ⟨r1, res1⟩
    rw [hx] at hF hL hne
    -- every request is made while the set is empty and the group at `r.byte` does not fit
    replace hL := hL.mono (Q := fun c => n = none → rs.positions = [] ∧ ¬ Fits (inp.drop r.byte) c)
      fun c h hn => ⟨hnew hn hst h.1, h.2 (hmode hn)⟩
    have left : ∀ {rs' : RecordSet} {res' : Res Bool}, r1.state = .finished →
        (res' = .err .bufferLimit ↔ res1 = .err .bufferLimit) →
        SetLog inp n r rs (r1, rs', res') := by
      intro rs' res' hfin hiff
      obtain ⟨new, b, h1, h2, h3, h4⟩ := hL
      exact ⟨⟨new, b, h1, h2, hiff.trans h3, h4⟩, fun _ h => by rw [hfin] at h; cases h⟩
    rcases hF with ⟨hr, x, its', hi, hsh⟩ | ⟨hr, -, hfin⟩ | ⟨e, b, l, hr, -, hfin⟩ |
      ⟨e, hr, -, -, hfin⟩ <;> dsimp only at hr <;> subst hr <;> dsimp only
    · -- a record: it is stored and stepped over
      obtain ⟨hstore, hl2, hm2⟩ := store_shown n rs hsh
      have hstart : (r.state = .positioned → IsStart inp r.byte) →
          (stepOver r1).state = .positioned → IsStart inp (stepOver r1).byte := by
        intro hs0 hs2
        rcases hsh.rest with ⟨-, -, -, -, h4⟩ | ⟨hfin, -⟩
        · have hits : its = itemsAt inp r.byte r.line := by
            simp only [Good, hst] at hg
            exact hg.2.2.2
          have hbyte : r1.byte = r.byte := by
            rw [← hsh.byte_eq, (itemsAt_head_record (hits ▸ hi)).1]
          rw [hbyte] at h4
          simpa only [stepOver, hbyte] using IsStart.step (hs0 hst) h4
        · rw [show (stepOver r1).state = r1.state from rfl, hfin] at hs2
          cases hs2
      unfold storeK
      rw [hstore]
      by_cases hk : n = some (rs.positions.length + 1)
      · rw [decide_eq_true hk]
        exact ⟨hL, hstart⟩
      · rw [decide_eq_false hk]
        obtain ⟨hR, h5⟩ := ih isNew (stepOver r1) { rs with positions := rs.positions ++ [r1.bp] }
            its' hl2 hmode (fun _ hs2 hne => absurd (hm2 hs2).1 hne)
        have hR' : Reqs (fun c => n = none → rs.positions = [] ∧ ¬ Fits (inp.drop r.byte) c) r1
            _ _ := hR.mono fun c h hn => by simpa using (h hn).1
        exact ⟨hL.trans nofun hR', fun hs0 => h5 (hstart hs0)⟩
    · -- the end of the input
      rw [if_pos (Option.isSome_iff_ne_none.mpr (hne rfl))]
      split <;> exact left hfin.1 ⟨nofun, nofun⟩
    · exact left hfin.1 Iff.rfl
    · exact left hfin.1 Iff.rfl

/-! ## one call of `read_record_set(_exact)` -/

theorem setFin_fst_res (x : Reader × RecordSet × Res Bool) :
    (setFin x).1 = x.1 ∧ (setFin x).2.2 = x.2.2 := by
  rcases x with ⟨r, rs, (b | _ | _ | _)⟩
  · cases b <;> exact ⟨rfl, rfl⟩
  all_goals exact ⟨rfl, rfl⟩

theorem set_reqs {inp G fuel r its} (rs : RecordSet) (n : Option Nat) (hg : Good inp G r its)
    (hfuel : 2 * r.br.src.inp.length + 4 ≤ fuel) :
    Reqs (fun c => n = none → ¬ Fits (inp.drop (nextByte r)) c) r
        (readRecordSetExact fuel r rs n).1 (readRecordSetExact fuel r rs n).2.2 ∧
      (IsStart inp (nextByte r) → (readRecordSetExact fuel r rs n).1.state = .positioned →
        IsStart inp (readRecordSetExact fuel r rs n).1.byte) := by
  rw [good_inp hg] at hfuel
  rw [readSet_eq]
  rcases enter_cases hg with ⟨r', res, heq, hne, hR, hp, -⟩ | ⟨r2, heq, hg2, hst2, hby, hR⟩
  · rw [heq, setPost_of_ne hne]
    exact ⟨hR.mono nofun, fun _ h => absurd h hp⟩
  · obtain ⟨hL, h5⟩ := setLoop_log inp G fuel (by omega) n fuel true r2 { rs with positions := [] }
      its ⟨hg2, Or.inl hst2⟩ (fun _ => rfl) (fun _ _ _ => rfl)
    rw [heq, setPost_ok, (setFin_fst_res _).1, (setFin_fst_res _).2, ← hby]
    exact ⟨(hR.mono nofun).trans nofun (hL.mono fun c h hn => (h hn).2), fun hs0 => h5 fun _ => hs0⟩

/-- **C09 for record-set reads, bookkeeping.**  One call of `read_record_set` (`n = none`) or
`read_record_set_exact` (`n = some _`) from a good state, in any environment and for any policy
that answers more than it is passed or refuses:
`(result reader).log = r.log ++ new` where `new` is a well-formed chain of requests starting at the
capacity on entry and ending at the final capacity; `BufferLimit` is returned iff the last request
was refused; for a plain read every request `(c, a)` is made while the FIRST group of the batch
(the one starting at input offset `nextByte r`) does not fit into the capacity `c` passed – groups
behind the first one never make the buffer grow; and a reader left `positioned` stands at the start
of a group. -/
theorem set_growth_log (inp : List UInt8) (G : Prop) (fuel : Nat) (r : Reader) (rs : RecordSet)
    (n : Option Nat) (its : List FqItem) (hg : Good inp G r its)
    (hfuel : 2 * r.br.src.inp.length + 4 ≤ fuel) :
    ∃ new b, (readRecordSetExact fuel r rs n).1.log = r.log ++ new ∧
      GrowLog r.br.cap new (readRecordSetExact fuel r rs n).1.br.cap b ∧
      ((readRecordSetExact fuel r rs n).2.2 = .err .bufferLimit ↔ b = true) ∧
      (n = none → ∀ c a, (c, a) ∈ new → ¬ Fits (inp.drop (nextByte r)) c) ∧
      (IsStart inp (nextByte r) → (readRecordSetExact fuel r rs n).1.state = .positioned →
        IsStart inp (readRecordSetExact fuel r rs n).1.byte) := by
  obtain ⟨⟨new, b, h1, h2, h3, h4⟩, h5⟩ := set_reqs rs n hg hfuel
  exact ⟨new, b, h1, h2, h3, fun hn c a hm => h4 c a hm hn, h5⟩

theorem set_no_request_cap (inp : List UInt8) (G : Prop) (fuel : Nat) (r : Reader) (rs : RecordSet)
    (n : Option Nat) (its : List FqItem) (hg : Good inp G r its)
    (hfuel : 2 * r.br.src.inp.length + 4 ≤ fuel)
    (h : (readRecordSetExact fuel r rs n).1.log = r.log) :
    (readRecordSetExact fuel r rs n).1.br.cap = r.br.cap :=
  (set_reqs rs n hg hfuel).1.cap_eq h

/-! ## fitting groups never make the buffer grow, whatever the history -/

/-- a plain record-set read keeps the invariant of `fitting_never_grows` -/
theorem quiet_set (inp : List UInt8) (cap : Nat) (hfit : AllFit inp cap) (r : Reader) (rs : RecordSet)
    (h : Quiet inp cap r) : Quiet inp cap (readRecordSetExact (fuelOf r) r rs none).1 := by
  by_cases hst : r.state = .finished
  · rw [show readRecordSetExact (fuelOf r) r rs none = (r, rs, .ok false) by
      simp only [readRecordSetExact, hst]]
    exact h
  obtain ⟨its, hg⟩ := h.good
  obtain ⟨hR, h5⟩ := set_reqs rs none hg (fuelOf_ge r)
  obtain ⟨hl, hc⟩ := h.no_request hfit hst (hR.mono fun c h => h rfl)
  rcases readSet_spec inp False (fuelOf r) r rs none its hg (fuelOf_ge r) nofun with
    ⟨-, ys, its', -, -, -, hlp, -⟩ | ⟨-, -, hf, -⟩ | ⟨ys, e, b', l, -, -, -, hf, -⟩ |
    ⟨e, -, -, -, -, hf⟩ | ⟨-, -, -, its', hg', hst', -⟩
  · refine ⟨⟨its', hlp.1⟩, hl, hc, fun hnf => ?_⟩
    have hp := hlp.2.resolve_right hnf
    simp only [nextByte, hp]
    exact h5 (h.start hst) hp
  rotate_right
  · exact ⟨⟨its', hg'⟩, hl, hc, fun hnf => good_new_start hg' (hst'.resolve_left hnf)⟩
  all_goals exact ⟨⟨[], hf.good⟩, hl, hc, fun hnf => absurd hf.1 hnf⟩

/-- operations of a history without exact-count reads and seeks -/
def plainOp : Op → Bool
  | .set _ (some _) => false
  | .seekItem _ => false
  | _ => true

def runEnd (m : MSt) : List Op → MSt
  | [] => m
  | op :: ops => runEnd (stepM m op).1 ops

theorem quiet_step (inp : List UInt8) (cap : Nat) (hfit : AllFit inp cap) (m : MSt) (op : Op)
    (hop : plainOp op = true) (h : Quiet inp cap m.r) : Quiet inp cap (stepM m op).1.r := by
  cases op with
  | next => exact quiet_next inp cap hfit m.r h
  | owned => exact quiet_next inp cap hfit m.r h
  | dump j => exact h
  | pos => exact h
  | seekItem i => cases hop
  | set j n =>
    cases n with
    | some n' => cases hop
    | none =>
      simp only [stepM, stepSet, MSt.putSet_r]
      exact quiet_set inp cap hfit m.r (m.getSet j) h

/-- **C09, corollary for histories.** If every group of the input fits into the initial capacity,
then after ANY history of single-record reads, owned reads, plain record-set reads (into any of the
three sets), dumps and position queries the policy has never been asked: the log is empty and the
capacity unchanged (for any policy that answers more than it is passed or refuses, any read script
without failing events, any chunking). -/
theorem fitting_never_grows_history (inp : List UInt8) (cap : Nat) (hcap : 3 ≤ cap) (pol : Pol)
    (hwf : PolWf1 pol) (script : List ReadEv) (hs : NoFail script) (chunk : Nat)
    (hfit : AllFit inp cap) (ops : List Op) (hops : ∀ op ∈ ops, plainOp op = true) :
    (runEnd (mkM inp cap pol script chunk) ops).r.log = [] ∧
      (runEnd (mkM inp cap pol script chunk) ops).r.br.cap = cap := by
  have hq : ∀ (ops : List Op) (m : MSt), (∀ op ∈ ops, plainOp op = true) → Quiet inp cap m.r →
      Quiet inp cap (runEnd m ops).r := by
    intro ops
    induction ops with
    | nil => intro m _ h; exact h
    | cons op ops ih =>
      intro m hops h
      exact ih _ (fun o ho => hops o (List.mem_cons_of_mem _ ho))
        (quiet_step inp cap hfit m op (hops op List.mem_cons_self) h)
  have := hq ops (mkM inp cap pol script chunk) hops
    (quiet_mkReader inp cap hcap pol hwf script hs chunk)
  exact ⟨this.log, this.cap⟩

end SeqIo.Fastq
