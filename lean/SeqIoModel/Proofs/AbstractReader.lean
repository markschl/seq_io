import SeqIoModel.Model.History
import SeqIoModel.Model.HistoryFq
/-!
# What acceptance by the abstract reader A means (property C04)

Only about the abstract reader A (`Model/History.lean`, `Model/HistoryFq.lean`): what a history
that A accepts looks like – the records of S are delivered in order, exactly once; the end is
reported only when nothing is left; set sizes; a filled set is a snapshot; seeks.
`Acceptor.Run` is the run of either format's acceptor as a relation.  FASTA first, then FASTQ.
-/

namespace SeqIo.ListFacts

theorem drop_take_one {α : Type} : ∀ (l : List α) (k : Nat) (x : α), l[k]? = some x →
    (l.drop k).take 1 = [x]
  | [], k, x, h => by simp at h
  | y :: l, 0, x, h => by simp at h; simp [h]
  | y :: l, k + 1, x, h => by
    simp only [List.getElem?_cons_succ] at h
    simpa using drop_take_one l k x h

theorem seg_append {α : Type} (l : List α) (i j k : Nat) (hij : i ≤ j) (hjk : j ≤ k) :
    (l.drop i).take (j - i) ++ (l.drop j).take (k - j) = (l.drop i).take (k - i) := by
  have e1 : k - i = (j - i) + (k - j) := by omega
  have e2 : l.drop j = (l.drop i).drop (j - i) := by
    rw [List.drop_drop]; congr 1; omega
  rw [e1, e2, List.take_add]

theorem seg_all {α : Type} (l : List α) (i : Nat) : (l.drop i).take (l.length - i) = l.drop i := by
  apply List.take_of_length_le
  simp

end SeqIo.ListFacts

/-! ## running an acceptor over a history -/

namespace SeqIo.Acceptor
variable {σ Op Obs : Type} {step : σ → Op → Obs → Option σ}

inductive Run (step : σ → Op → Obs → Option σ) : σ → List Op → List Obs → σ → Prop
  | nil (a : σ) : Run step a [] [] a
  | cons {a a₁ a' : σ} {op : Op} {o : Obs} {ops : List Op} {os : List Obs} :
    step a op o = some a₁ → Run step a₁ ops os a' → Run step a (op :: ops) (o :: os) a'

/-- a function with the recursion equations of `execA` computes `Run` -/
theorem run_iff {f : σ → List Op → List Obs → Option σ}
    (nil : ∀ a, f a [] [] = some a)
    (cons : ∀ a op ops o os, f a (op :: ops) (o :: os) = (step a op o).bind (f · ops os))
    (nc : ∀ a o os, f a [] (o :: os) = none) (cn : ∀ a op ops, f a (op :: ops) [] = none)
    {a a' : σ} {ops : List Op} {obs : List Obs} : f a ops obs = some a' ↔ Run step a ops obs a' := by
  constructor
  · intro h
    induction ops generalizing a obs with
    | nil =>
      cases obs with
      | nil => rw [nil] at h; exact Option.some.inj h ▸ .nil a
      | cons => rw [nc] at h; cases h
    | cons op ops ih =>
      cases obs with
      | nil => rw [cn] at h; cases h
      | cons o os =>
        rw [cons, Option.bind_eq_some_iff] at h
        obtain ⟨a₁, h1, h2⟩ := h
        exact .cons h1 (ih h2)
  · intro h
    induction h with
    | nil => exact nil _
    | cons h1 _ ih => rw [cons, h1]; exact ih

theorem Run.length {a a' : σ} {ops : List Op} {obs : List Obs} (h : Run step a ops obs a') :
    ops.length = obs.length := by
  induction h with
  | nil => rfl
  | cons _ _ ih => rw [List.length_cons, List.length_cons, ih]

theorem Run.uncons {a a' : σ} {op : Op} {o : Obs} {ops : List Op} {os : List Obs}
    (h : Run step a (op :: ops) (o :: os) a') : ∃ a₁, step a op o = some a₁ ∧ Run step a₁ ops os a' := by
  cases h with
  | cons h1 h2 => exact ⟨_, h1, h2⟩

theorem Run.cut {a' : σ} {op : Op} {o : Obs} {ops₂ : List Op} {obs₂ : List Obs} :
    ∀ {ops₁ : List Op} {obs₁ : List Obs} {a : σ}, ops₁.length = obs₁.length →
    Run step a (ops₁ ++ op :: ops₂) (obs₁ ++ o :: obs₂) a' →
    ∃ a₁ a₂, Run step a ops₁ obs₁ a₁ ∧ step a₁ op o = some a₂ ∧ Run step a₂ ops₂ obs₂ a' := by
  intro ops₁
  induction ops₁ with
  | nil =>
    intro obs₁ a hl h
    cases obs₁ with
    | nil => exact let ⟨a₂, h1, h2⟩ := h.uncons; ⟨a, a₂, .nil a, h1, h2⟩
    | cons => cases hl
  | cons _ _ ih =>
    intro obs₁ a hl h
    cases obs₁ with
    | nil => cases hl
    | cons =>
      obtain ⟨_, h1, h2⟩ := h.uncons
      obtain ⟨a₁, a₂, h3, h4, h5⟩ := ih (Nat.succ.inj hl) h2
      exact ⟨a₁, a₂, .cons h1 h3, h4, h5⟩

/-- The one induction over an accepted history: `P` is a property of states kept by every accepted
step, `Q` what such a step guarantees of its operation and observation. -/
theorem Run.invariant {P : σ → Prop} {Q : Op → Obs → Prop} {a a' : σ} {ops : List Op}
    {obs : List Obs} (h : Run step a ops obs a')
    (hstep : ∀ p ∈ ops.zip obs, ∀ b b', P b → step b p.1 p.2 = some b' → P b' ∧ Q p.1 p.2)
    (ha : P a) : P a' ∧ ∀ p ∈ ops.zip obs, Q p.1 p.2 := by
  induction h with
  | nil => exact ⟨ha, nofun⟩
  | cons h1 _ ih =>
    rw [List.zip_cons_cons, List.forall_mem_cons] at hstep ⊢
    obtain ⟨hb, hq⟩ := hstep.1 _ _ ha h1
    obtain ⟨ha', hall⟩ := ih hstep.2 hb
    exact ⟨ha', hq, hall⟩

theorem Run.preserves {P : σ → Prop} {a a' : σ} {ops : List Op} {obs : List Obs}
    (h : Run step a ops obs a')
    (hstep : ∀ p ∈ ops.zip obs, ∀ b b', P b → step b p.1 p.2 = some b' → P b') (ha : P a) : P a' :=
  (h.invariant (Q := fun _ _ => True) (fun p hp b b' hb hs => ⟨hstep p hp b b' hb hs, trivial⟩) ha).1

theorem Run.bracket {P : σ → Prop} {a a' : σ} {op₀ op₁ : Op} {o₀ o₁ : Obs} {mid : List Op}
    {obsMid : List Obs} (hlen : mid.length = obsMid.length)
    (h : Run step a (op₀ :: (mid ++ [op₁])) (o₀ :: (obsMid ++ [o₁])) a')
    (h₀ : ∀ a₁, step a op₀ o₀ = some a₁ → P a₁)
    (hstep : ∀ p ∈ mid.zip obsMid, ∀ b b', P b → step b p.1 p.2 = some b' → P b') :
    ∃ a₁ a₂, step a op₀ o₀ = some a₁ ∧ P a₂ ∧ step a₂ op₁ o₁ = some a' := by
  obtain ⟨a₁, h1, h2⟩ := h.uncons
  obtain ⟨a₂, _, h3, h5, h6⟩ := h2.cut hlen
  cases h6
  exact ⟨a₁, a₂, h1, h3.preserves hstep (h₀ a₁ h1), h5⟩

theorem Run.mem_zip {a a' : σ} {ops : List Op} {obs : List Obs} (h : Run step a ops obs a')
    {o : Obs} (ho : o ∈ obs) : ∃ op, (op, o) ∈ ops.zip obs := by
  induction h with
  | nil => exact nomatch ho
  | @cons _ _ _ op _ _ _ _ _ ih =>
    rw [List.zip_cons_cons]
    rcases List.mem_cons.mp ho with rfl | ho
    · exact ⟨op, List.mem_cons_self⟩
    · exact (ih ho).imp fun _ h => List.mem_cons_of_mem _ h

theorem Run.det {D : Op → Prop} {a a₁ : σ} {ops : List Op} {obs₁ : List Obs}
    (h₁ : Run step a ops obs₁ a₁)
    (hstep : ∀ {a a₁ a₂ : σ} {op : Op} {o₁ o₂ : Obs}, D op →
      step a op o₁ = some a₁ → step a op o₂ = some a₂ → o₁ = o₂ ∧ a₁ = a₂) :
    ∀ {obs₂ : List Obs} {a₂ : σ}, (∀ op ∈ ops, D op) → Run step a ops obs₂ a₂ → obs₁ = obs₂ := by
  induction h₁ with
  | nil => intro _ _ _ h₂; cases h₂; rfl
  | cons e₁ _ ih =>
    intro _ _ hd h₂
    cases h₂ with
    | cons e₂ h₂ =>
      rw [List.forall_mem_cons] at hd
      obtain ⟨rfl, rfl⟩ := hstep hd.1 e₁ e₂
      rw [ih hd.2 h₂]

end SeqIo.Acceptor

namespace SeqIo.Fasta.Hist
open SeqIo.ListFacts SeqIo.Acceptor

/-! ## FASTA: definitions -/

def execA (it : Items) (a : AState) : List Op → List ObsH → Option AState
  | [], [] => some a
  | op :: ops, o :: os =>
    match acceptA it a op o with
    | some a' => execA it a' ops os
    | none => none
  | _, _ => none

theorem execA_iff {it : Items} {a a' : AState} {ops : List Op} {obs : List ObsH} :
    execA it a ops obs = some a' ↔ Run (acceptA it) a ops obs a' :=
  run_iff (fun _ => rfl) (fun a op _ o _ => by rw [execA]; cases acceptA it a op o <;> rfl)
    (fun _ _ _ => rfl) (fun _ _ _ => rfl)

theorem runA_eq_execA (it : Items) : ∀ (a : AState) (ops : List Op) (obs : List ObsH),
    runA it a ops obs = (execA it a ops obs).isSome
  | a, [], [] => rfl
  | a, [], _ :: _ => rfl
  | a, _ :: _, [] => rfl
  | a, op :: ops, o :: os => by
    simp only [runA, execA]
    cases h : acceptA it a op o with
    | none => rfl
    | some a' => exact runA_eq_execA it a' ops os

theorem runA_iff {it : Items} {a : AState} {ops : List Op} {obs : List ObsH} :
    runA it a ops obs = true ↔ ∃ a', Run (acceptA it) a ops obs a' := by
  simp only [runA_eq_execA, Option.isSome_iff_exists, execA_iff]

def Op.isSeek : Op → Bool
  | .seekRec _ => true
  | _ => false

def SeekFree (ops : List Op) : Prop := ∀ op ∈ ops, op.isSeek = false

/-- a `dump` re-shows records, it does not deliver any -/
def deliveredCount : Op → ObsH → Nat
  | .next, .record _ _ => 1
  | .owned, .owned _ _ => 1
  | .set _ _, .batch m => m
  | _, _ => 0

def deliveredCounts : List Op → List ObsH → Nat
  | op :: ops, o :: os => deliveredCount op o + deliveredCounts ops os
  | _, _ => 0

/-- A `record` observation carries header and lines itself.  A `batch m` carries only the count,
an `owned` observation only the concatenated sequence: the records they stand for are taken from
S at the cursor (`accepted_owned`, `accepted_dump_snapshot`: how they show up for the caller). -/
def deliveredStep (it : Items) (a : AState) : Op → ObsH → List RecView
  | .next, .record h ls => [(h, ls)]
  | .owned, .owned _ _ => ((it.recs.drop a.k).take 1).map view
  | .set _ _, .batch m => ((it.recs.drop a.k).take m).map view
  | _, _ => []

def deliveredRecs (it : Items) (a : AState) : List Op → List ObsH → List RecView
  | op :: ops, o :: os =>
    deliveredStep it a op o ++
      (match acceptA it a op o with
       | some a' => deliveredRecs it a' ops os
       | none => [])
  | _, _ => []

def segment (it : Items) (i j : Nat) : List RecView := ((it.recs.drop i).take (j - i)).map view

theorem segment_append (it : Items) (i j k : Nat) (hij : i ≤ j) (hjk : j ≤ k) :
    segment it i j ++ segment it j k = segment it i k := by
  unfold segment
  rw [← List.map_append, seg_append _ _ _ _ hij hjk]

theorem segment_self (it : Items) (i : Nat) : segment it i i = [] := by
  simp [segment]

theorem segment_add (it : Items) (i m : Nat) :
    segment it i (i + m) = ((it.recs.drop i).take m).map view := by
  rw [segment, Nat.add_sub_cancel_left]

/-! ## FASTA: what one accepted observation says -/

def shownBy : Op → Spec.FaRec → ObsH
  | .owned, rc => .owned rc.head rc.seq
  | _, rc => .record rc.head rc.seqLines

/-- the body of `acceptA` for `next` and for an owned read -/
def acceptRead (it : Items) (a : AState) (shown : Spec.FaRec → ObsH) (o : ObsH) : Option AState :=
  match errDue it a with
  | some e => if o = .error e then some { a with errDone := true, last := .other } else none
  | none =>
    match it.recs[a.k]? with
    | some rc => if o = shown rc then some { a with k := a.k + 1, last := .record a.k } else none
    | none => if o = .none then some { a with last := .other } else none

theorem acceptA_read_inv {it : Items} {a a' : AState} {op : Op} {o : ObsH}
    (hop : op = .next ∨ op = .owned) (h : acceptA it a op o = some a') :
    (∃ e, errDue it a = some e ∧ o = .error e ∧ a' = { a with errDone := true, last := .other }) ∨
    (errDue it a = none ∧ ∃ rc, it.recs[a.k]? = some rc ∧ o = shownBy op rc ∧
      a' = { a with k := a.k + 1, last := .record a.k }) ∨
    (errDue it a = none ∧ it.recs[a.k]? = none ∧ o = .none ∧ a' = { a with last := .other }) := by
  have h : acceptRead it a (shownBy op) o = some a' := by rcases hop with rfl | rfl <;> exact h
  unfold acceptRead at h
  split at h
  · next e he =>
    obtain ⟨ho, ha⟩ := Option.ite_some_none_eq_some.mp h
    exact .inl ⟨e, he, ho, ha.symm⟩
  · next he =>
    split at h
    · next rc hrc =>
      obtain ⟨ho, ha⟩ := Option.ite_some_none_eq_some.mp h
      exact .inr (.inl ⟨he, rc, hrc, ho, ha.symm⟩)
    · next hrc =>
      obtain ⟨ho, ha⟩ := Option.ite_some_none_eq_some.mp h
      exact .inr (.inr ⟨he, hrc, ho, ha.symm⟩)

def sizeOk (n : Option Nat) (m left : Nat) : Prop :=
  1 ≤ m ∧ match n with
    | none => m ≤ left
    | some n => m = min n left

theorem sizeOk.le {n : Option Nat} {m left : Nat} (h : sizeOk n m left) : m ≤ left := by
  cases n with
  | none => exact h.2
  | some n => exact h.2 ▸ Nat.min_le_right n left

theorem acceptA_set_inv {it : Items} {a a' : AState} {o : ObsH} {j : Nat} {n : Option Nat}
    (h : acceptA it a (.set j n) o = some a') :
    ((n = some 0 ∨ a.sets.length ≤ j) ∧ o = .done ∧ a' = a) ∨
    (n ≠ some 0 ∧ j < a.sets.length ∧
      ((∃ e, errDue it a = some e ∧ o = .error e ∧
          a' = { markOrEmpty a j with errDone := true, last := .other }) ∨
       (errDue it a = none ∧ o = .none ∧ it.recs.length - a.k = 0 ∧
          a' = { markOrEmpty a j with last := .other }) ∨
       (errDue it a = none ∧ ∃ m, o = .batch m ∧ sizeOk n m (it.recs.length - a.k) ∧
          a' = { a with k := a.k + m, sets := a.sets.set j { lo := a.k, len := m }, last := .set }))) := by
  by_cases hn : n = some 0
  · subst hn
    obtain ⟨ho, ha⟩ := Option.ite_some_none_eq_some.mp h
    exact .inl ⟨.inl rfl, ho, ha.symm⟩
  rw [acceptA.eq_4 _ _ _ _ _ hn] at h
  by_cases hj : j < a.sets.length
  · rw [if_pos hj] at h
    refine .inr ⟨hn, hj, ?_⟩
    split at h
    · next e he =>
      obtain ⟨ho, ha⟩ := Option.ite_some_none_eq_some.mp h
      exact .inl ⟨e, he, ho, ha.symm⟩
    · next he =>
      split at h
      · obtain ⟨hl, ha⟩ := Option.ite_some_none_eq_some.mp h
        exact .inr (.inl ⟨he, rfl, hl, ha.symm⟩)
      · next m =>
        obtain ⟨hok, ha⟩ := Option.ite_some_none_eq_some.mp h
        refine .inr (.inr ⟨he, m, rfl, ?_, ha.symm⟩)
        cases n <;> exact (of_decide_eq_true hok :)
      · cases h
  · rw [if_neg hj] at h
    obtain ⟨ho, ha⟩ := Option.ite_some_none_eq_some.mp h
    exact .inl ⟨.inr (Nat.le_of_not_lt hj), ho, ha.symm⟩

theorem acceptA_dump_inv {it : Items} {a a' : AState} {o : ObsH} {j : Nat}
    (h : acceptA it a (.dump j) o = some a') :
    a' = a ∧
    ((a.sets[j]? = none ∧ o = .done) ∨
     ∃ e, a.sets[j]? = some e ∧
       (o = .dump (((it.recs.drop e.lo).take e.len).map view) ∨ (e.orEmpty = true ∧ o = .dump []))) := by
  change (match a.sets[j]? with | none => _ | some e => _) = _ at h
  split at h
  · next hj =>
    obtain ⟨ho, ha⟩ := Option.ite_some_none_eq_some.mp h
    exact ⟨ha.symm, .inl ⟨hj, ho⟩⟩
  · next e hj =>
    obtain ⟨ho, ha⟩ := Option.ite_some_none_eq_some.mp h
    exact ⟨ha.symm, .inr ⟨e, hj, ho⟩⟩

theorem acceptA_pos_inv {it : Items} {a a' : AState} {o : ObsH}
    (h : acceptA it a .pos o = some a') : a' = a ∧ ∃ p, o = .pos p := by
  cases o with
  | pos p => exact ⟨(Option.ite_some_none_eq_some.mp h).2.symm, p, rfl⟩
  | _ => cases h

theorem acceptA_seek_inv {it : Items} {a a' : AState} {o : ObsH} {i : Nat}
    (h : acceptA it a (.seekRec i) o = some a') :
    o = .done ∧
    ((i < it.recs.length ∧ a' = { a with k := i, last := .seek i }) ∨
     (it.recs.length ≤ i ∧ a' = a)) := by
  change (if _ then _ else _) = _ at h
  by_cases hi : i < it.recs.length
  · rw [if_pos hi] at h
    obtain ⟨ho, ha⟩ := Option.ite_some_none_eq_some.mp h
    exact ⟨ho, .inl ⟨hi, ha.symm⟩⟩
  · rw [if_neg hi] at h
    obtain ⟨ho, ha⟩ := Option.ite_some_none_eq_some.mp h
    exact ⟨ho, .inr ⟨Nat.le_of_not_lt hi, ha.symm⟩⟩

theorem markOrEmpty_k (a : AState) (j : Nat) : (markOrEmpty a j).k = a.k := by
  unfold markOrEmpty; split <;> rfl

theorem markOrEmpty_errDone (a : AState) (j : Nat) : (markOrEmpty a j).errDone = a.errDone := by
  unfold markOrEmpty; split <;> rfl

theorem markOrEmpty_length (a : AState) (j : Nat) :
    (markOrEmpty a j).sets.length = a.sets.length := by
  unfold markOrEmpty; split <;> simp

theorem markOrEmpty_get_ne (a : AState) (j j' : Nat) (h : j' ≠ j) :
    (markOrEmpty a j').sets[j]? = a.sets[j]? := by
  unfold markOrEmpty
  split
  · rfl
  · simp [List.getElem?_set_ne h]

theorem markOrEmpty_get_self (a : AState) (j : Nat) (e : SetExp) (h : a.sets[j]? = some e) :
    (markOrEmpty a j).sets[j]? = some { e with orEmpty := true } := by
  unfold markOrEmpty
  rw [h]
  simp [(List.getElem?_eq_some_iff.mp h).1]

theorem errDue_congr {it : Items} {a b : AState} (h : b.errDone = a.errDone) :
    errDue it b = errDue it a := by
  unfold errDue; rw [h]

/-! ## FASTA: one step -/

/-- an operation that really reads (a set read of a dead set or with count 0 does nothing) -/
def Op.reads (nsets : Nat) : Op → Bool
  | .next => true
  | .owned => true
  | .set j n => decide (j < nsets) && decide (n ≠ some 0)
  | _ => false

def AtEnd (it : Items) (a : AState) : Prop := errDue it a = none ∧ a.k = it.recs.length

/-- what an accepted observation does to the state -/
structure Effect (it : Items) (a : AState) (op : Op) (o : ObsH) (a' : AState) : Prop where
  sets_length : a'.sets.length = a.sets.length
  sets_eq : (∀ j n, op ≠ .set j n) → a'.sets = a.sets
  le : a.k ≤ it.recs.length → a'.k ≤ it.recs.length
  errDone : a'.errDone = a.errDone ∨ a'.errDone = true
  cursor : op.isSeek = false →
    a'.k = a.k + deliveredCount op o ∧ deliveredStep it a op o = segment it a.k a'.k

theorem accept_effect {it : Items} {a a' : AState} {op : Op} {o : ObsH}
    (h : acceptA it a op o = some a') : Effect it a op o a' := by
  have hread (hop : op = .next ∨ op = .owned) : Effect it a op o a' := by
    rcases acceptA_read_inv hop h with ⟨e, _, rfl, rfl⟩ | ⟨_, rc, hrc, rfl, rfl⟩ | ⟨_, _, rfl, rfl⟩
    · exact ⟨rfl, fun _ => rfl, id, .inr rfl, fun _ => by
        rcases hop with rfl | rfl <;> exact ⟨rfl, (segment_self it _).symm⟩⟩
    · refine ⟨rfl, fun _ => rfl, fun _ => (List.getElem?_eq_some_iff.mp hrc).1, .inl rfl, fun _ => ?_⟩
      rcases hop with rfl | rfl
      · exact ⟨rfl, by rw [segment_add, drop_take_one _ _ _ hrc]; rfl⟩
      · exact ⟨rfl, (segment_add it a.k 1).symm⟩
    · exact ⟨rfl, fun _ => rfl, id, .inl rfl, fun _ => by
        rcases hop with rfl | rfl <;> exact ⟨rfl, (segment_self it _).symm⟩⟩
  cases op with
  | next => exact hread (.inl rfl)
  | owned => exact hread (.inr rfl)
  | set j n =>
    rcases acceptA_set_inv h with ⟨_, rfl, rfl⟩ |
      ⟨_, _, ⟨e, _, rfl, rfl⟩ | ⟨_, rfl, _, rfl⟩ | ⟨_, m, rfl, hsz, rfl⟩⟩
    · exact ⟨rfl, fun _ => rfl, id, .inl rfl, fun _ => ⟨rfl, (segment_self it _).symm⟩⟩
    · exact ⟨markOrEmpty_length a j, fun hne => absurd rfl (hne j n), fun hk => markOrEmpty_k a j ▸ hk,
        .inr rfl,
        fun _ => ⟨markOrEmpty_k a j, by rw [markOrEmpty_k]; exact (segment_self it _).symm⟩⟩
    · exact ⟨markOrEmpty_length a j, fun hne => absurd rfl (hne j n), fun hk => markOrEmpty_k a j ▸ hk,
        .inl (markOrEmpty_errDone a j),
        fun _ => ⟨markOrEmpty_k a j, by rw [markOrEmpty_k]; exact (segment_self it _).symm⟩⟩
    · have := hsz.le
      exact ⟨List.length_set, fun hne => absurd rfl (hne j n), fun hk => by show a.k + m ≤ _; omega,
        .inl rfl, fun _ => ⟨rfl, (segment_add it a.k m).symm⟩⟩
  | dump j =>
    obtain ⟨rfl, hcase⟩ := acceptA_dump_inv h
    refine ⟨rfl, fun _ => rfl, id, .inl rfl, fun _ => ?_⟩
    rcases hcase with ⟨_, rfl⟩ | ⟨e, _, rfl | ⟨_, rfl⟩⟩ <;> exact ⟨rfl, (segment_self it _).symm⟩
  | pos =>
    obtain ⟨rfl, p, rfl⟩ := acceptA_pos_inv h
    exact ⟨rfl, fun _ => rfl, id, .inl rfl, fun _ => ⟨rfl, (segment_self it _).symm⟩⟩
  | seekRec i =>
    rcases (acceptA_seek_inv h).2 with ⟨hi, rfl⟩ | ⟨_, rfl⟩
    · exact ⟨rfl, fun _ => rfl, fun _ => Nat.le_of_lt hi, .inl rfl, nofun⟩
    · exact ⟨rfl, fun _ => rfl, id, .inl rfl, nofun⟩

theorem Op.reads_set {nsets j : Nat} {n : Option Nat} :
    (Op.set j n).reads nsets = true ↔ j < nsets ∧ n ≠ some 0 := by
  simp [Op.reads]

theorem accept_obs {it : Items} {a a' : AState} {op : Op} {o : ObsH}
    (h : acceptA it a op o = some a') :
    (o = .none → op.reads a.sets.length = true ∧ errDue it a = none ∧ it.recs.length ≤ a.k) ∧
    (∀ e, o = .error e → op.reads a.sets.length = true ∧ errDue it a = some e ∧ a'.errDone = true) ∧
    (op.reads a.sets.length = true → errDue it a = none → it.recs.length ≤ a.k → o = .none) := by
  cases op with
  | next | owned =>
    rcases acceptA_read_inv (by decide) h with
      ⟨e, he, rfl, rfl⟩ | ⟨_, rc, hrc, rfl, rfl⟩ | ⟨he, hrc, rfl, rfl⟩
    · exact ⟨nofun, fun _ h => by cases h; exact ⟨rfl, he, rfl⟩,
        fun _ hn _ => absurd (he.symm.trans hn) nofun⟩
    · exact ⟨nofun, fun _ => nofun, fun _ _ hk =>
        absurd (List.getElem?_eq_some_iff.mp hrc).1 (Nat.not_lt.mpr hk)⟩
    · exact ⟨fun _ => ⟨rfl, he, List.getElem?_eq_none_iff.mp hrc⟩, fun _ => nofun, fun _ _ _ => rfl⟩
  | set j n =>
    rcases acceptA_set_inv h with ⟨hbad, rfl, rfl⟩ |
      ⟨hn, hj, ⟨e, he, rfl, rfl⟩ | ⟨he, rfl, hl, rfl⟩ | ⟨_, m, rfl, hsz, rfl⟩⟩
    · refine ⟨nofun, fun _ => nofun, fun hr _ _ => ?_⟩
      rw [Op.reads_set] at hr
      rcases hbad with hb | hb
      · exact absurd hb hr.2
      · exact absurd hr.1 (Nat.not_lt.mpr hb)
    · exact ⟨nofun, fun _ h => by cases h; exact ⟨Op.reads_set.mpr ⟨hj, hn⟩, he, rfl⟩,
        fun _ hn' _ => absurd (he.symm.trans hn') nofun⟩
    · exact ⟨fun _ => ⟨Op.reads_set.mpr ⟨hj, hn⟩, he, Nat.le_of_sub_eq_zero hl⟩, fun _ => nofun,
        fun _ _ _ => rfl⟩
    · exact ⟨nofun, fun _ => nofun, fun _ _ hk => by have := hsz.1; have := hsz.le; omega⟩
  | dump j =>
    rcases (acceptA_dump_inv h).2 with ⟨_, rfl⟩ | ⟨e, _, rfl | ⟨_, rfl⟩⟩ <;> exact ⟨nofun, fun _ => nofun, nofun⟩
  | pos =>
    obtain ⟨_, p, rfl⟩ := acceptA_pos_inv h
    exact ⟨nofun, fun _ => nofun, nofun⟩
  | seekRec i =>
    obtain ⟨rfl, _⟩ := acceptA_seek_inv h
    exact ⟨nofun, fun _ => nofun, nofun⟩

theorem errDue_of_errDone {it : Items} {a : AState} (h : a.errDone = true) : errDue it a = none := by
  unfold errDue; rw [h]; rfl

theorem Effect.errDue_none {it : Items} {a a' : AState} {op : Op} {o : ObsH}
    (h : Effect it a op o a') (he : errDue it a = none) : errDue it a' = none := by
  rcases h.errDone with hd | hd
  · exact (errDue_congr hd).trans he
  · exact errDue_of_errDone hd

theorem AtEnd.step {it : Items} {a a' : AState} {op : Op} {o : ObsH} (he : AtEnd it a)
    (h : acceptA it a op o = some a') (hop : op.isSeek = false) :
    AtEnd it a' ∧ (op.reads a.sets.length = true → o = .none) := by
  have eff := accept_effect h
  have hk := (eff.cursor hop).1
  have hle := eff.le (Nat.le_of_eq he.2)
  exact ⟨⟨eff.errDue_none he.1, by have := he.2; omega⟩,
    fun hr => (accept_obs h).2.2 hr he.1 (Nat.le_of_eq he.2.symm)⟩

/-! ## FASTA: histories -/

theorem execA_length {it : Items} : ∀ {a a' : AState} {ops : List Op} {obs : List ObsH},
    execA it a ops obs = some a' → ops.length = obs.length :=
  fun h => (execA_iff.mp h).length

/-- Along an accepted history without seeks, everything delivered – in the order of the calls –
is the segment of the records of S between the cursor before and the cursor after the history:
in order, without gaps, without repetition. -/
theorem run_delivers {it : Items} {a a' : AState} {ops : List Op} {obs : List ObsH}
    (h : Run (acceptA it) a ops obs a') (hns : SeekFree ops) :
    a'.k = a.k + deliveredCounts ops obs ∧ deliveredRecs it a ops obs = segment it a.k a'.k := by
  induction h with
  | nil a => exact ⟨rfl, (segment_self it a.k).symm⟩
  | cons h1 _ ih =>
    rw [SeekFree, List.forall_mem_cons] at hns
    obtain ⟨hk, hs⟩ := (accept_effect h1).cursor hns.1
    obtain ⟨ihk, ihs⟩ := ih hns.2
    simp only [deliveredCounts, deliveredRecs, h1, hs, ihs]
    exact ⟨by omega, segment_append it _ _ _ (by omega) (by omega)⟩

/-- from the initial state: what has been delivered is a prefix of the records of S -/
theorem accepted_delivers_prefix {it : Items} {a' : AState} {ops : List Op} {obs : List ObsH}
    (hns : SeekFree ops) (h : execA it aInit ops obs = some a') :
    deliveredRecs it aInit ops obs = (it.recs.take a'.k).map view := by
  rw [(run_delivers (execA_iff.mp h) hns).2]
  simp [segment, aInit]

theorem accepted_next {it : Items} {a a' : AState} {h : List UInt8} {ls : List (List UInt8)}
    (hacc : acceptA it a .next (.record h ls) = some a') :
    ∃ rc, it.recs[a.k]? = some rc ∧ h = rc.head ∧ ls = rc.seqLines ∧ a'.k = a.k + 1 := by
  rcases acceptA_read_inv (.inl rfl) hacc with ⟨e, _, ho, _⟩ | ⟨_, rc, hrc, ho, rfl⟩ | ⟨_, _, ho, _⟩
  · cases ho
  · injection ho with h1 h2
    exact ⟨rc, hrc, h1, h2, rfl⟩
  · cases ho

theorem accepted_owned {it : Items} {a a' : AState} {h s : List UInt8}
    (hacc : acceptA it a .owned (.owned h s) = some a') :
    ∃ rc, it.recs[a.k]? = some rc ∧ h = rc.head ∧ s = rc.seqLines.flatten ∧ a'.k = a.k + 1 := by
  rcases acceptA_read_inv (.inr rfl) hacc with ⟨e, _, ho, _⟩ | ⟨_, rc, hrc, ho, rfl⟩ | ⟨_, _, ho, _⟩
  · cases ho
  · injection ho with h1 h2
    exact ⟨rc, hrc, h1, h2, rfl⟩
  · cases ho

/-! ## FASTA: the end of the input -/

theorem run_frame {it : Items} {a a' : AState} {ops : List Op} {obs : List ObsH}
    (h : Run (acceptA it) a ops obs a') :
    a'.sets.length = a.sets.length ∧ (a.k ≤ it.recs.length → a'.k ≤ it.recs.length) :=
  h.preserves
    (P := fun b => b.sets.length = a.sets.length ∧ (a.k ≤ it.recs.length → b.k ≤ it.recs.length))
    (fun _ _ _ _ hb hs => ⟨(accept_effect hs).sets_length.trans hb.1,
      fun hk => (accept_effect hs).le (hb.2 hk)⟩) ⟨rfl, id⟩

theorem AtEnd.forever {it : Items} {a a' : AState} {ops : List Op} {obs : List ObsH}
    (he : AtEnd it a) (hns : SeekFree ops) (h : Run (acceptA it) a ops obs a') :
    AtEnd it a' ∧ ∀ p ∈ ops.zip obs, p.1.reads a.sets.length = true → p.2 = .none := by
  obtain ⟨hP, hQ⟩ := h.invariant (P := fun b => AtEnd it b ∧ b.sets.length = a.sets.length)
    (Q := fun op o => op.reads a.sets.length = true → o = .none)
    (fun p hp _ _ hb hs => by
      obtain ⟨he', hr⟩ := hb.1.step hs (hns _ (List.of_mem_zip hp).1)
      exact ⟨⟨he', (accept_effect hs).sets_length.trans hb.2⟩, hb.2 ▸ hr⟩) ⟨he, rfl⟩
  exact ⟨hP.1, hQ⟩

/-- An accepted history without seeks, split at an observation `none` (end of input): the cursor
at that moment is the number of records – nothing is lost –, no format error is pending, and
every later reading operation reports the end again. -/
theorem accepted_none_means_all {it : Items} {a a' : AState} {ops₁ ops₂ : List Op}
    {obs₁ obs₂ : List ObsH} {op : Op}
    (hk : a.k ≤ it.recs.length) (hns : SeekFree (ops₁ ++ op :: ops₂))
    (hlen : ops₁.length = obs₁.length)
    (h : execA it a (ops₁ ++ op :: ops₂) (obs₁ ++ .none :: obs₂) = some a') :
    ∃ a₁, execA it a ops₁ obs₁ = some a₁ ∧
      op.reads a.sets.length = true ∧
      a₁.k = it.recs.length ∧
      deliveredRecs it a ops₁ obs₁ = (it.recs.drop a.k).map view ∧
      errDue it a₁ = none ∧
      a'.k = it.recs.length ∧
      (∀ p ∈ ops₂.zip obs₂, p.1.reads a.sets.length = true → p.2 = .none) := by
  obtain ⟨a₁, a₂, h1, h3, h4⟩ := (execA_iff.mp h).cut hlen
  rw [SeekFree, List.forall_mem_append, List.forall_mem_cons] at hns
  obtain ⟨hl1, hk1⟩ := run_frame h1
  obtain ⟨hr, he1, hge⟩ := (accept_obs h3).1 rfl
  have hae : AtEnd it a₁ := ⟨he1, Nat.le_antisymm (hk1 hk) hge⟩
  obtain ⟨he', hall⟩ := (hae.step h3 hns.2.1).1.forever hns.2.2 h4
  refine ⟨a₁, execA_iff.mpr h1, hl1 ▸ hr, hae.2, ?_, he1, he'.2, ?_⟩
  · rw [(run_delivers h1 hns.1).2, segment, hae.2, seg_all]
  · rw [(accept_effect h3).sets_length, hl1] at hall; exact hall

theorem no_error_after {it : Items} {a a' : AState} {ops : List Op} {obs : List ObsH}
    (hd : a.errDone = true) (h : Run (acceptA it) a ops obs a') : ∀ e, .error e ∉ obs := by
  have hQ := (h.invariant (P := fun b => b.errDone = true) (Q := fun _ o => ∀ e, o ≠ .error e)
    (fun _ _ _ _ hb hs => ⟨by
        rcases (accept_effect hs).errDone with h | h
        · exact h.trans hb
        · exact h,
      fun e he => nomatch (errDue_of_errDone hb).symm.trans ((accept_obs hs).2.1 e he).2.1⟩) hd).2
  intro e hmem
  obtain ⟨op, hp⟩ := h.mem_zip hmem
  exact hQ _ hp e rfl

/-- In an accepted history (seeks allowed) an error observation is the format error S assigns
to the input, it is reported by a reading operation, and no error is observed after it. -/
theorem accepted_error_once {it : Items} {a a' : AState} {ops₁ ops₂ : List Op}
    {obs₁ obs₂ : List ObsH} {op : Op} {e : Err} (hlen : ops₁.length = obs₁.length)
    (h : execA it a (ops₁ ++ op :: ops₂) (obs₁ ++ .error e :: obs₂) = some a') :
    it.err = some e ∧ op.reads a.sets.length = true ∧ ∀ e', .error e' ∉ obs₂ := by
  obtain ⟨a₁, a₂, h1, h3, h4⟩ := (execA_iff.mp h).cut hlen
  obtain ⟨hr, he, hd⟩ := (accept_obs h3).2.1 e rfl
  refine ⟨?_, (run_frame h1).1 ▸ hr, no_error_after hd h4⟩
  unfold errDue at he
  split at he
  · cases he
  · exact he

/-- in FASTA a format error means that S assigns no records at all to the input -/
theorem items_err_no_recs (inp : List UInt8) (h : (items inp).err ≠ none) : (items inp).recs = [] := by
  unfold items at h ⊢
  split
  · rename_i hs; rw [hs] at h; exact absurd rfl h
  · rfl

/-! ## FASTA: sizes of record sets -/

theorem acceptA_batch_inv {it : Items} {a a' : AState} {j m : Nat} {n : Option Nat}
    (h : acceptA it a (.set j n) (.batch m) = some a') :
    n ≠ some 0 ∧ j < a.sets.length ∧ sizeOk n m (it.recs.length - a.k) ∧
    a' = { a with k := a.k + m, sets := a.sets.set j { lo := a.k, len := m }, last := .set } := by
  rcases acceptA_set_inv h with ⟨_, ho, _⟩ |
    ⟨hn, hj, ⟨e, _, ho, _⟩ | ⟨_, ho, _, _⟩ | ⟨_, m', ho, hsz, ha⟩⟩
  · cases ho
  · cases ho
  · cases ho
  · cases ho; exact ⟨hn, hj, hsz, ha⟩

/-- an accepted plain set read delivers at least one record and at most what is left -/
theorem accepted_batch_sizes_plain {it : Items} {a a' : AState} {j m : Nat}
    (h : acceptA it a (.set j none) (.batch m) = some a') :
    1 ≤ m ∧ m ≤ it.recs.length - a.k ∧ a'.k = a.k + m := by
  obtain ⟨_, _, hsz, rfl⟩ := acceptA_batch_inv h
  exact ⟨hsz.1, hsz.2, rfl⟩

/-- an accepted exact read of `n` records delivers exactly `n` records, or all that are
left if these are fewer (and at least one) -/
theorem accepted_batch_sizes_exact {it : Items} {a a' : AState} {j n m : Nat}
    (h : acceptA it a (.set j (some n)) (.batch m) = some a') :
    1 ≤ n ∧ 1 ≤ m ∧ m = min n (it.recs.length - a.k) ∧ a'.k = a.k + m := by
  obtain ⟨hn, _, hsz, rfl⟩ := acceptA_batch_inv h
  exact ⟨Nat.pos_of_ne_zero fun h0 => hn (h0 ▸ rfl), hsz.1, hsz.2, rfl⟩

/-! ## FASTA: filled sets stay unchanged -/

/-- set `j` is expected to hold the records `lo, …, lo + len - 1`
(`strict`: and cannot have been emptied) -/
def Holds (sets : List SetExp) (j lo len : Nat) (strict : Bool) : Prop :=
  ∃ e, sets[j]? = some e ∧ e.lo = lo ∧ e.len = len ∧ (strict = true → e.orEmpty = false)

/-- the only observation that changes what set `j` is expected to hold is a batch for set `j`;
a set read on `j` that reports the end or an error may empty it -/
theorem accept_holds {it : Items} {a a' : AState} {op : Op} {o : ObsH} {j lo len : Nat} {strict : Bool}
    (h : acceptA it a op o = some a') (hh : Holds a.sets j lo len strict)
    (hno : if strict then ∀ n, op ≠ .set j n else ∀ n m, (op, o) ≠ (.set j n, .batch m)) :
    Holds a'.sets j lo len strict := by
  cases op with
  | set j' n =>
    obtain ⟨e, hje, hlo, hle, hst⟩ := hh
    -- a call on the same set that empties it
    have hmark : Holds (markOrEmpty a j').sets j lo len strict := by
      by_cases hjj : j' = j
      · subst hjj
        cases strict with
        | true => exact absurd rfl (hno n)
        | false => exact ⟨_, markOrEmpty_get_self a j' e hje, hlo, hle, nofun⟩
      · exact ⟨e, (markOrEmpty_get_ne a j j' hjj).trans hje, hlo, hle, hst⟩
    rcases acceptA_set_inv h with ⟨_, _, rfl⟩ |
      ⟨_, _, ⟨e', _, _, rfl⟩ | ⟨_, _, _, rfl⟩ | ⟨_, m, rfl, _, rfl⟩⟩
    · exact ⟨e, hje, hlo, hle, hst⟩
    · exact hmark
    · exact hmark
    · have hjj : j' ≠ j := by
        rintro rfl
        cases strict with
        | true => exact absurd rfl (hno n)
        | false => exact absurd rfl (hno n m)
      exact ⟨e, (List.getElem?_set_ne hjj).trans hje, hlo, hle, hst⟩
  | _ => exact (accept_effect h).sets_eq nofun ▸ hh

theorem batch_holds {it : Items} {a a' : AState} {j m : Nat} {n : Option Nat}
    (h : acceptA it a (.set j n) (.batch m) = some a') (strict : Bool) :
    Holds a'.sets j a.k m strict := by
  obtain ⟨_, hj, _, rfl⟩ := acceptA_batch_inv h
  exact ⟨{ lo := a.k, len := m }, by simp [hj], rfl, rfl, fun _ => rfl⟩

theorem dump_holds {it : Items} {a a' : AState} {j lo len : Nat} {strict : Bool} {l : List RecView}
    (h : acceptA it a (.dump j) (.dump l) = some a') (hh : Holds a.sets j lo len strict) :
    l = ((it.recs.drop lo).take len).map view ∨ (strict = false ∧ l = []) := by
  obtain ⟨e, hje, rfl, rfl, hst⟩ := hh
  rcases (acceptA_dump_inv h).2 with ⟨hn, _⟩ | ⟨e', hje', ho | ⟨hoe, ho⟩⟩
  · cases hje.symm.trans hn
  · cases hje.symm.trans hje'
    cases ho; exact .inl rfl
  · cases hje.symm.trans hje'
    cases ho
    cases strict with
    | true => cases (hst rfl).symm.trans hoe
    | false => exact .inr ⟨rfl, rfl⟩

/-- "Earlier filled sets stay unchanged."  Set `j` is filled with `m` records, then anything
happens (reads, other sets, seeks) except a set read on `j`, then `j` is dumped: the dump shows
the records `k, …, k + m - 1` of S, `k` the cursor when the set was filled. -/
theorem accepted_dump_snapshot {it : Items} {a a' : AState} {j m : Nat} {n : Option Nat}
    {mid : List Op} {obsMid : List ObsH} {l : List RecView}
    (hlen : mid.length = obsMid.length)
    (hmid : ∀ n', .set j n' ∉ mid)
    (h : execA it a (.set j n :: (mid ++ [.dump j])) (.batch m :: (obsMid ++ [.dump l])) = some a') :
    l = ((it.recs.drop a.k).take m).map view ∧
    l = deliveredStep it a (.set j n) (.batch m) := by
  obtain ⟨_, _, _, hh, h5⟩ := (execA_iff.mp h).bracket hlen (fun _ h1 => batch_holds h1 true)
    fun p hp _ _ hb hs => accept_holds hs hb fun n' hpn => hmid n' (hpn ▸ (List.of_mem_zip hp).1)
  rcases dump_holds h5 hh with hl | ⟨hs, _⟩
  · exact ⟨hl, hl⟩
  · cases hs

/-- If in between set `j` was passed to set reads that reported the end of the input or
an error (but never filled it again), the dump shows the same records or nothing. -/
theorem accepted_dump_snapshot_or_empty {it : Items} {a a' : AState} {j m : Nat} {n : Option Nat}
    {mid : List Op} {obsMid : List ObsH} {l : List RecView}
    (hlen : mid.length = obsMid.length)
    (hmid : ∀ p ∈ mid.zip obsMid, ∀ n' m', p ≠ (.set j n', .batch m'))
    (h : execA it a (.set j n :: (mid ++ [.dump j])) (.batch m :: (obsMid ++ [.dump l])) = some a') :
    l = ((it.recs.drop a.k).take m).map view ∨ l = [] := by
  obtain ⟨_, _, _, hh, h5⟩ := (execA_iff.mp h).bracket hlen (fun _ h1 => batch_holds h1 false)
    fun p hp _ _ hb hs => accept_holds hs hb (hmid p hp)
  exact (dump_holds h5 hh).imp_right And.right

theorem accepted_dump_fresh {it : Items} {a' : AState} {j : Nat}
    {ops : List Op} {obs : List ObsH} {l : List RecView}
    (hlen : ops.length = obs.length)
    (hno : ∀ p ∈ ops.zip obs, ∀ n' m', p ≠ (.set j n', .batch m'))
    (h : execA it aInit (ops ++ [.dump j]) (obs ++ [.dump l]) = some a') : l = [] := by
  obtain ⟨a₂, _, h3, h5, _⟩ := (execA_iff.mp h).cut hlen
  rcases (acceptA_dump_inv h5).2 with ⟨_, ho⟩ | ⟨e, hje, _⟩
  · cases ho
  · have hj : j < 3 := Nat.lt_of_lt_of_eq (List.getElem?_eq_some_iff.mp hje).1 (run_frame h3).1
    have hh0 : Holds aInit.sets j 0 0 false :=
      ⟨{}, (List.getElem?_replicate (n := 3)).trans (if_pos hj), rfl, rfl, nofun⟩
    rcases dump_holds h5 (h3.preserves
      (fun p hp _ _ hb hs => accept_holds (strict := false) hs hb (hno p hp)) hh0) with hl | ⟨_, hl⟩
    · exact hl
    · exact hl

/-! ## FASTA: seeks -/

/-- After an accepted seek to record `i` the cursor is `i`; the reads that follow (up to
the next seek) deliver `recs[i], recs[i+1], …` in order, each once. -/
theorem accepted_after_seek {it : Items} {a a' : AState} {i : Nat} {o : ObsH}
    {ops : List Op} {obs : List ObsH} (hi : i < it.recs.length) (hns : SeekFree ops)
    (h : execA it a (.seekRec i :: ops) (o :: obs) = some a') :
    o = .done ∧
    a'.k = i + deliveredCounts ops obs ∧
    deliveredRecs it a (.seekRec i :: ops) (o :: obs) = segment it i a'.k := by
  obtain ⟨a₁, h1, h2⟩ := (execA_iff.mp h).uncons
  obtain ⟨ho, ⟨_, rfl⟩ | ⟨hge, _⟩⟩ := acceptA_seek_inv h1
  · obtain ⟨hc, hd⟩ := run_delivers h2 hns
    exact ⟨ho, hc, by simp only [deliveredRecs, h1, deliveredStep, List.nil_append, hd]⟩
  · omega

/-! ## FASTA: summary in terms of `runA` -/

/-- C04 for FASTA in one statement -/
theorem runA_delivers {it : Items} {a : AState} {ops : List Op} {obs : List ObsH}
    (hns : SeekFree ops) (h : runA it a ops obs = true) :
    ∃ a', execA it a ops obs = some a' ∧
      a'.k = a.k + deliveredCounts ops obs ∧
      deliveredRecs it a ops obs = ((it.recs.drop a.k).take (deliveredCounts ops obs)).map view := by
  obtain ⟨a', h'⟩ := runA_iff.mp h
  obtain ⟨hc, hd⟩ := run_delivers h' hns
  exact ⟨a', execA_iff.mpr h', hc, by rw [hd, hc, segment_add]⟩

/-- the statements are not vacuous: a small accepted history -/
example :
    let r0 : Spec.FaRec := { byte := 0, line := 1, head := [65], seqLines := [[67], [71]] }
    let r1 : Spec.FaRec := { byte := 7, line := 4, head := [66], seqLines := [] }
    let it : Items := { recs := [r0, r1], err := none }
    runA it aInit [.next, .set 0 none, .owned, .dump 0, .set 1 (some 2), .seekRec 1, .owned]
      [.record [65] [[67], [71]], .batch 1, .none, .dump [([66], [])], .none, .done, .owned [66] []]
      = true := by decide

end SeqIo.Fasta.Hist

/-! # FASTQ

The items of S are records, possibly followed by one error item (`fastq_err_last`).  The cursor
of A counts items.  The delivered records are the records before the error; the error is reported
once; after that, every read reports the end of the input. -/

namespace SeqIo.Fastq.Hist
open SeqIo SeqIo.Spec SeqIo.ListFacts SeqIo.Acceptor

/-! ## FASTQ: definitions -/

def execA (items : List FqItem) (a : AState) : List Op → List ObsH → Option AState
  | [], [] => some a
  | op :: ops, o :: os =>
    match acceptA items a op o with
    | some a' => execA items a' ops os
    | none => none
  | _, _ => none

theorem execA_iff {items : List FqItem} {a a' : AState} {ops : List Op} {obs : List ObsH} :
    execA items a ops obs = some a' ↔ Run (acceptA items) a ops obs a' :=
  run_iff (fun _ => rfl) (fun a op _ o _ => by rw [execA]; cases acceptA items a op o <;> rfl)
    (fun _ _ _ => rfl) (fun _ _ _ => rfl)

theorem acceptsA_eq_execA (items : List FqItem) : ∀ (a : AState) (ops : List Op) (obs : List ObsH),
    acceptsA items a ops obs = (execA items a ops obs).isSome
  | a, [], [] => rfl
  | a, [], _ :: _ => rfl
  | a, _ :: _, [] => rfl
  | a, op :: ops, o :: os => by
    simp only [acceptsA, execA]
    cases h : acceptA items a op o with
    | none => rfl
    | some a' => exact acceptsA_eq_execA items a' ops os

theorem acceptsA_iff {items : List FqItem} {a : AState} {ops : List Op} {obs : List ObsH} :
    acceptsA items a ops obs = true ↔ ∃ a', Run (acceptA items) a ops obs a' := by
  simp only [acceptsA_eq_execA, Option.isSome_iff_exists, execA_iff]

def Op.isSeek : Op → Bool
  | .seekItem _ => true
  | _ => false

def SeekFree (ops : List Op) : Prop := ∀ op ∈ ops, op.isSeek = false

def NoErrObs (obs : List ObsH) : Prop := ∀ e, ObsH.error e ∉ obs

def Op.reads : Op → Bool
  | .next => true
  | .owned => true
  | .set _ _ => true
  | _ => false

def deliveredCount : Op → ObsH → Nat
  | .next, .record _ => 1
  | .owned, .record _ => 1
  | .set _ _, .batch m => m
  | _, _ => 0

def deliveredCounts : List Op → List ObsH → Nat
  | op :: ops, o :: os => deliveredCount op o + deliveredCounts ops os
  | _, _ => 0

/-- a `batch m` carries only the count; the records it stands for are the next `m` records of S
at the cursor (`accepted_dump_snapshot`: that is what a dump of the set shows) -/
def deliveredStep (items : List FqItem) (a : AState) : Op → ObsH → List Rec
  | .next, .record r => [r]
  | .owned, .record r => [r]
  | .set _ _, .batch m => (leadRecs (items.drop a.k)).take m
  | _, _ => []

def deliveredRecs (items : List FqItem) (a : AState) : List Op → List ObsH → List Rec
  | op :: ops, o :: os =>
    deliveredStep items a op o ++
      (match acceptA items a op o with
       | some a' => deliveredRecs items a' ops os
       | none => [])
  | _, _ => []

/-- the items number `i, …, j - 1` of S are the records `xs`, and `rs` is how the caller sees
them -/
def IsSegment (items : List FqItem) (i j : Nat) (rs : List Rec) : Prop :=
  ∃ xs : List FqRec, (items.drop i).take (j - i) = xs.map FqItem.record ∧ rs = xs.map recOf

theorem IsSegment.append {items : List FqItem} {i j k : Nat} {rs₁ rs₂ : List Rec}
    (h₁ : IsSegment items i j rs₁) (h₂ : IsSegment items j k rs₂) (hij : i ≤ j) (hjk : j ≤ k) :
    IsSegment items i k (rs₁ ++ rs₂) := by
  obtain ⟨xs₁, e₁, r₁⟩ := h₁
  obtain ⟨xs₂, e₂, r₂⟩ := h₂
  refine ⟨xs₁ ++ xs₂, ?_, ?_⟩
  · rw [← seg_append items i j k hij hjk, e₁, e₂, List.map_append]
  · rw [r₁, r₂, List.map_append]

theorem IsSegment.nil (items : List FqItem) (i : Nat) : IsSegment items i i [] :=
  ⟨[], by simp, rfl⟩

theorem IsSegment.length {items : List FqItem} {i j : Nat} {rs : List Rec}
    (h : IsSegment items i j rs) (hj : j ≤ items.length) (hij : i ≤ j) : rs.length = j - i := by
  obtain ⟨xs, e, r⟩ := h
  have := congrArg List.length e
  simp only [List.length_take, List.length_drop, List.length_map] at this
  rw [r, List.length_map]
  omega

theorem IsSegment.get {items : List FqItem} {i j : Nat} {rs : List Rec}
    (h : IsSegment items i j rs) (q : Nat) (hq : q < rs.length) :
    ∃ x, items[i + q]? = some (.record x) ∧ rs[q]? = some (recOf x) := by
  obtain ⟨xs, e, r⟩ := h
  subst r
  simp only [List.length_map] at hq
  refine ⟨xs[q], ?_, by simp [hq]⟩
  have h1 : ((items.drop i).take (j - i))[q]? = some (.record xs[q]) := by
    rw [e]; simp [hq]
  rw [List.getElem?_take] at h1
  split at h1
  · rw [List.getElem?_drop] at h1; exact h1
  · cases h1

/-! ## FASTQ: lead records -/

theorem leadRecs_nil : leadRecs [] = [] := rfl
theorem leadRecs_record (x : FqRec) (rest : List FqItem) :
    leadRecs (.record x :: rest) = recOf x :: leadRecs rest := rfl
theorem leadRecs_err (e : FqErr) (b l : Nat) (rest : List FqItem) :
    leadRecs (.err e b l :: rest) = [] := rfl

theorem leadRecs_length_le : ∀ l : List FqItem, (leadRecs l).length ≤ l.length
  | [] => by simp [leadRecs_nil]
  | .record x :: rest => by
    simp only [leadRecs_record, List.length_cons]
    exact Nat.succ_le_succ (leadRecs_length_le rest)
  | .err e b l :: rest => by simp [leadRecs_err]

theorem leadRecs_take : ∀ (l : List FqItem) (m : Nat), m ≤ (leadRecs l).length →
    ∃ xs : List FqRec, l.take m = xs.map FqItem.record ∧ (leadRecs l).take m = xs.map recOf
  | _, 0, _ => ⟨[], by simp, by simp⟩
  | [], m + 1, h => by simp [leadRecs_nil] at h
  | .err e b l :: rest, m + 1, h => by simp [leadRecs_err] at h
  | .record x :: rest, m + 1, h => by
    simp only [leadRecs_record, List.length_cons, Nat.add_le_add_iff_right] at h
    obtain ⟨xs, h1, h2⟩ := leadRecs_take rest m h
    exact ⟨x :: xs, by simp [h1], by simp [leadRecs_record, h2]⟩

theorem leadRecs_next : ∀ (l : List FqItem) (x : FqRec), l[(leadRecs l).length]? ≠ some (.record x)
  | [], x => by simp [leadRecs_nil]
  | .err e b l :: rest, x => by simp [leadRecs_err]
  | .record y :: rest, x => by
    simp only [leadRecs_record, List.length_cons, List.getElem?_cons_succ]
    exact leadRecs_next rest x

theorem IsSegment.lead {items : List FqItem} {k m : Nat}
    (hm : m ≤ (leadRecs (items.drop k)).length) :
    IsSegment items k (k + m) ((leadRecs (items.drop k)).take m) := by
  obtain ⟨xs, h1, h2⟩ := leadRecs_take (items.drop k) m hm
  exact ⟨xs, by rw [Nat.add_sub_cancel_left]; exact h1, h2⟩

theorem lead_le (items : List FqItem) (k : Nat) :
    (leadRecs (items.drop k)).length ≤ items.length - k :=
  List.length_drop ▸ leadRecs_length_le (items.drop k)

/-! ## FASTQ: what one accepted observation says -/

theorem acceptNext_inv {items : List FqItem} {a a' : AState} {o : ObsH}
    (h : acceptNext items a o = some a') :
    (items[a.k]? = none ∧ o = .none ∧ a' = { a with last := .none }) ∨
    (∃ x, items[a.k]? = some (.record x) ∧ o = .record (recOf x) ∧
      a' = { a with k := a.k + 1, last := .item a.k }) ∨
    (∃ e b l, items[a.k]? = some (.err e b l) ∧ o = .error (specErr e) ∧
      a' = { a with k := items.length, last := .none }) := by
  unfold acceptNext at h
  split at h
  · next hk =>
    obtain ⟨ho, ha⟩ := Option.ite_some_none_eq_some.mp h
    exact .inl ⟨hk, ho, ha.symm⟩
  · next x hk =>
    obtain ⟨ho, ha⟩ := Option.ite_some_none_eq_some.mp h
    exact .inr (.inl ⟨x, hk, ho, ha.symm⟩)
  · next e b l hk =>
    obtain ⟨ho, ha⟩ := Option.ite_some_none_eq_some.mp h
    exact .inr (.inr ⟨e, b, l, hk, ho, ha.symm⟩)

theorem acceptSet_inv {items : List FqItem} {a a' : AState} {o : ObsH} {j : Nat} {n : Option Nat}
    (h : acceptSet items a j n o = some a') :
    (o = .none ∧ items.length ≤ a.k ∧
      a' = ({ a with last := .none } : AState).putSet j { a.getSet j with altEmpty := true }) ∨
    (∃ e b l, o = .error (specErr e) ∧
      items[a.k + (leadRecs (items.drop a.k)).length]? = some (.err e b l) ∧
      reachedErr n (leadRecs (items.drop a.k)).length = true ∧
      a' = ({ a with k := items.length, last := .none } : AState).putSet j
          { a.getSet j with altEmpty := true }) ∨
    (∃ m, o = .batch m ∧
      batchOk n m (leadRecs (items.drop a.k)).length
        (items[a.k + (leadRecs (items.drop a.k)).length]?).isSome = true ∧
      a' = ({ a with k := a.k + m, last := .set } : AState).putSet j
          { recs := (leadRecs (items.drop a.k)).take m, altEmpty := false }) := by
  cases o with
  | none =>
    obtain ⟨hc, ha⟩ := Option.ite_some_none_eq_some.mp h
    exact .inl ⟨rfl, hc, ha.symm⟩
  | error e =>
    unfold acceptSet at h
    simp only at h
    split at h
    · next e' b l herr =>
      obtain ⟨⟨rfl, hr⟩, ha⟩ := Option.ite_some_none_eq_some.mp h
      exact .inr (.inl ⟨e', b, l, rfl, herr, hr, ha.symm⟩)
    · cases h
  | batch m =>
    obtain ⟨hc, ha⟩ := Option.ite_some_none_eq_some.mp h
    exact .inr (.inr ⟨m, rfl, hc, ha.symm⟩)
  | _ => cases h

theorem acceptDump_inv {a a' : AState} {o : ObsH} {j : Nat} (h : acceptDump a j o = some a') :
    a' = a ∧ ∃ rs, o = .dump rs ∧ (rs = (a.getSet j).recs ∨ ((a.getSet j).altEmpty = true ∧ rs = [])) := by
  unfold acceptDump at h
  split at h
  · next rs =>
    obtain ⟨hc, ha⟩ := Option.ite_some_none_eq_some.mp h
    exact ⟨ha.symm, rs, rfl, hc⟩
  · cases h

theorem acceptPos_inv {items : List FqItem} {a a' : AState} {o : ObsH}
    (h : acceptPos items a o = some a') : a' = a ∧ ∃ l b, o = .position l b := by
  unfold acceptPos at h
  split at h
  · next l b =>
    split at h
    · exact ⟨(Option.some.inj h).symm, l, b, rfl⟩
    · exact ⟨(Option.ite_some_none_eq_some.mp h).2.symm, l, b, rfl⟩
  · cases h

theorem acceptSeek_inv {items : List FqItem} {a a' : AState} {o : ObsH} {i : Nat}
    (h : acceptSeek items a i o = some a') :
    (o = .done ∧ i < items.length ∧ a' = { a with k := i, last := .seek i }) ∨
    (o = .badOp ∧ items.length ≤ i ∧ a' = a) := by
  unfold acceptSeek at h
  split at h
  · obtain ⟨hc, ha⟩ := Option.ite_some_none_eq_some.mp h
    exact .inl ⟨rfl, hc, ha.symm⟩
  · obtain ⟨hc, ha⟩ := Option.ite_some_none_eq_some.mp h
    exact .inr ⟨rfl, hc, ha.symm⟩
  · cases h

theorem putSet_k (a : AState) (j : Nat) (e : ASet) : (a.putSet j e).k = a.k := by
  unfold AState.putSet; split <;> rfl

/-- the slot of set index `j` (indices ≥ 2 all mean the third set) -/
def slot (j : Nat) : Nat := min j 2

theorem getSet_putSet_self (a : AState) (j : Nat) (e : ASet) : (a.putSet j e).getSet j = e :=
  match j with
  | 0 | 1 | _ + 2 => rfl

theorem slot_add_two (j : Nat) : slot (j + 2) = 2 := Nat.min_eq_right (Nat.le_add_left 2 j)

theorem getSet_putSet_other (a : AState) (j j' : Nat) (e : ASet) (h : slot j' ≠ slot j) :
    (a.putSet j e).getSet j' = a.getSet j' :=
  match j, j', h with
  | 0, 0, h | 1, 1, h => absurd rfl h
  | _ + 2, _ + 2, h => absurd ((slot_add_two _).trans (slot_add_two _).symm) h
  | 0, 1, _ | 0, _ + 2, _ | 1, 0, _ | 1, _ + 2, _ | _ + 2, 0, _ | _ + 2, 1, _ => rfl

theorem getSet_mark_recs (a : AState) (j j' : Nat) :
    ((a.putSet j { a.getSet j with altEmpty := true }).getSet j').recs = (a.getSet j').recs := by
  match j, j' with
  | 0, 0 | 0, 1 | 0, _ + 2 | 1, 0 | 1, 1 | 1, _ + 2 | _ + 2, 0 | _ + 2, 1 | _ + 2, _ + 2 => rfl

theorem batchOk_le {n : Option Nat} {m aheadLen : Nat} {errAhead : Bool}
    (h : batchOk n m aheadLen errAhead = true) : 1 ≤ m ∧ m ≤ aheadLen := by
  unfold batchOk at h
  cases n with
  | none => simpa using h
  | some n' =>
    simp only [decide_eq_true_eq] at h
    exact ⟨h.1, by rw [h.2.1]; exact Nat.min_le_right _ _⟩

/-! ## FASTQ: one step -/

/-- what an accepted observation does to the state -/
structure Effect (items : List FqItem) (a : AState) (op : Op) (o : ObsH) (a' : AState) : Prop where
  le : a.k ≤ items.length → a'.k ≤ items.length
  sets_eq : (∀ j n, op ≠ .set j n) → ∀ i, a'.getSet i = a.getSet i
  cursor : op.isSeek = false → (∀ e, o ≠ .error e) →
    a'.k = a.k + deliveredCount op o ∧ IsSegment items a.k a'.k (deliveredStep items a op o)

theorem accept_effect {items : List FqItem} {a a' : AState} {op : Op} {o : ObsH}
    (h : acceptA items a op o = some a') : Effect items a op o a' := by
  cases op with
  | next | owned =>
    rcases acceptNext_inv h with ⟨_, rfl, rfl⟩ | ⟨x, hx, rfl, rfl⟩ | ⟨e, _, _, _, rfl, rfl⟩
    · exact ⟨id, fun _ _ => rfl, fun _ _ => ⟨rfl, IsSegment.nil items a.k⟩⟩
    · exact ⟨fun _ => (List.getElem?_eq_some_iff.mp hx).1, fun _ _ => rfl,
        fun _ _ => ⟨rfl, [x], by simp [drop_take_one _ _ _ hx], rfl⟩⟩
    · exact ⟨fun _ => Nat.le_refl _, fun _ _ => rfl, fun _ hne => absurd rfl (hne _)⟩
  | set j n =>
    rcases acceptSet_inv h with ⟨rfl, _, rfl⟩ | ⟨e, _, _, rfl, _, _, rfl⟩ | ⟨m, rfl, hok, rfl⟩
    · exact ⟨fun hk => by rw [putSet_k]; exact hk, fun hne => absurd rfl (hne j n),
        fun _ _ => ⟨putSet_k .., by rw [putSet_k]; exact IsSegment.nil items a.k⟩⟩
    · exact ⟨fun _ => Nat.le_of_eq (putSet_k ..), fun hne => absurd rfl (hne j n),
        fun _ hne => absurd rfl (hne _)⟩
    · have hm := (batchOk_le hok).2
      have := lead_le items a.k
      exact ⟨fun hk => by rw [putSet_k]; show a.k + m ≤ _; omega, fun hne => absurd rfl (hne j n),
        fun _ _ => ⟨putSet_k .., by rw [putSet_k]; exact IsSegment.lead hm⟩⟩
  | dump j =>
    obtain ⟨rfl, rs, rfl, _⟩ := acceptDump_inv h
    exact ⟨id, fun _ _ => rfl, fun _ _ => ⟨rfl, IsSegment.nil items _⟩⟩
  | pos =>
    obtain ⟨rfl, l, b, rfl⟩ := acceptPos_inv h
    exact ⟨id, fun _ _ => rfl, fun _ _ => ⟨rfl, IsSegment.nil items _⟩⟩
  | seekItem i =>
    rcases acceptSeek_inv h with ⟨_, hi, rfl⟩ | ⟨_, _, rfl⟩
    · exact ⟨fun _ => Nat.le_of_lt hi, fun _ _ => rfl, nofun⟩
    · exact ⟨id, fun _ _ => rfl, nofun⟩

theorem accept_obs {items : List FqItem} {a a' : AState} {op : Op} {o : ObsH}
    (h : acceptA items a op o = some a') :
    (o = .none → op.reads = true ∧ items.length ≤ a.k ∧ a'.k = a.k) ∧
    (∀ e, o = .error e → op.reads = true ∧ a'.k = items.length ∧
      ∃ q e' b l, items[q]? = some (.err e' b l) ∧ e = specErr e' ∧ a.k ≤ q ∧
        (∃ xs : List FqRec, (items.drop a.k).take (q - a.k) = xs.map FqItem.record) ∧
        (op = .next ∨ op = .owned → q = a.k)) ∧
    (items.length ≤ a.k → op.isSeek = false → a'.k = a.k ∧ (op.reads = true → o = .none)) := by
  cases op with
  | next | owned =>
    rcases acceptNext_inv h with ⟨hk, rfl, rfl⟩ | ⟨x, hx, rfl, rfl⟩ | ⟨e, b, l, hx, rfl, rfl⟩
    · exact ⟨fun _ => ⟨rfl, List.getElem?_eq_none_iff.mp hk, rfl⟩, fun _ => nofun,
        fun _ _ => ⟨rfl, fun _ => rfl⟩⟩
    · exact ⟨nofun, fun _ => nofun,
        fun he _ => absurd (List.getElem?_eq_some_iff.mp hx).1 (Nat.not_lt.mpr he)⟩
    · exact ⟨nofun, fun _ h => by
          cases h
          exact ⟨rfl, rfl, a.k, e, b, l, hx, rfl, Nat.le_refl _, ⟨[], by simp⟩, fun _ => rfl⟩,
        fun he _ => absurd (List.getElem?_eq_some_iff.mp hx).1 (Nat.not_lt.mpr he)⟩
  | set j n =>
    rcases acceptSet_inv h with ⟨rfl, hk, rfl⟩ | ⟨e, b, l, rfl, hx, _, rfl⟩ | ⟨m, rfl, hok, rfl⟩
    · exact ⟨fun _ => ⟨rfl, hk, putSet_k ..⟩, fun _ => nofun, fun _ _ => ⟨putSet_k .., fun _ => rfl⟩⟩
    · have hlt := (List.getElem?_eq_some_iff.mp hx).1
      exact ⟨nofun, fun _ h => by
          cases h
          obtain ⟨xs, h1, _⟩ := IsSegment.lead (items := items) (k := a.k) (Nat.le_refl _)
          exact ⟨rfl, putSet_k .., _, e, b, l, hx, rfl, Nat.le_add_right _ _, ⟨xs, h1⟩, nofun⟩,
        fun he _ => by omega⟩
    · have := batchOk_le hok
      have := lead_le items a.k
      exact ⟨nofun, fun _ => nofun, fun he _ => by omega⟩
  | dump j =>
    obtain ⟨rfl, rs, rfl, _⟩ := acceptDump_inv h
    exact ⟨nofun, fun _ => nofun, fun _ _ => ⟨rfl, nofun⟩⟩
  | pos =>
    obtain ⟨rfl, l, b, rfl⟩ := acceptPos_inv h
    exact ⟨nofun, fun _ => nofun, fun _ _ => ⟨rfl, nofun⟩⟩
  | seekItem i =>
    rcases acceptSeek_inv h with ⟨rfl, _⟩ | ⟨rfl, _⟩ <;> exact ⟨nofun, fun _ => nofun, fun _ => nofun⟩

/-! ## FASTQ: histories -/

/-- Along an accepted history without seeks and without an error observation, everything
delivered – in the order of the calls – is the segment of the items of S between the cursor
before and the cursor after the history, and all these items are records. -/
theorem run_delivers {items : List FqItem} {a a' : AState} {ops : List Op} {obs : List ObsH}
    (h : Run (acceptA items) a ops obs a') (hns : SeekFree ops) (hne : NoErrObs obs) :
    a'.k = a.k + deliveredCounts ops obs ∧
    IsSegment items a.k a'.k (deliveredRecs items a ops obs) := by
  induction h with
  | nil a => exact ⟨rfl, IsSegment.nil items a.k⟩
  | cons h1 _ ih =>
    rw [SeekFree, List.forall_mem_cons] at hns
    obtain ⟨hk, hs⟩ := (accept_effect h1).cursor hns.1 fun e he => hne e (he ▸ List.mem_cons_self)
    obtain ⟨ihk, ihs⟩ := ih hns.2 fun e he => hne e (List.mem_cons_of_mem _ he)
    simp only [deliveredCounts, deliveredRecs, h1]
    exact ⟨by omega, hs.append ihs (by omega) (by omega)⟩

/-- record by record: the `q`-th delivered record is item number `k₀ + q` of S -/
theorem accepted_delivers_nth {items : List FqItem} {a a' : AState} {ops : List Op} {obs : List ObsH}
    (hns : SeekFree ops) (hne : NoErrObs obs) (h : execA items a ops obs = some a')
    (q : Nat) (hq : q < (deliveredRecs items a ops obs).length) :
    ∃ x, items[a.k + q]? = some (.record x) ∧ (deliveredRecs items a ops obs)[q]? = some (recOf x) :=
  (run_delivers (execA_iff.mp h) hns hne).2.get q hq

/-! ## FASTQ: the end of the input, and the error -/

theorem run_le {items : List FqItem} {a a' : AState} {ops : List Op} {obs : List ObsH}
    (h : Run (acceptA items) a ops obs a') (hk : a.k ≤ items.length) : a'.k ≤ items.length :=
  h.preserves (fun _ _ _ _ hb hs => (accept_effect hs).le hb) hk

theorem run_atEnd {items : List FqItem} {a a' : AState} {ops : List Op} {obs : List ObsH}
    (he : items.length ≤ a.k) (hns : SeekFree ops) (h : Run (acceptA items) a ops obs a') :
    a'.k = a.k ∧ (∀ p ∈ ops.zip obs, p.1.reads = true → p.2 = .none) ∧ NoErrObs obs := by
  obtain ⟨hP, hQ⟩ := h.invariant (P := fun b => b.k = a.k)
    (Q := fun op o => (op.reads = true → o = .none) ∧ ∀ e, o ≠ .error e)
    (fun p hp _ _ hb hs => by
      obtain ⟨hk, hr⟩ := (accept_obs hs).2.2 (hb ▸ he) (hns _ (List.of_mem_zip hp).1)
      exact ⟨hk.trans hb, hr, fun e hoe =>
        nomatch hoe.symm.trans (hr ((accept_obs hs).2.1 e hoe).1)⟩) rfl
  exact ⟨hP, fun p hp => (hQ p hp).1, fun e hmem =>
    let ⟨_, hp⟩ := h.mem_zip hmem; (hQ _ hp).2 e rfl⟩

/-- An accepted history without seeks, split at an observation `none` (end of input): the cursor
at that moment is the number of items, and every later reading operation reports the end again.
If no error was observed before, all the items from the initial cursor on are records and
exactly these were delivered: nothing is lost. -/
theorem accepted_none_means_all {items : List FqItem} {a a' : AState} {ops₁ ops₂ : List Op}
    {obs₁ obs₂ : List ObsH} {op : Op}
    (hk : a.k ≤ items.length) (hns : SeekFree (ops₁ ++ op :: ops₂))
    (hlen : ops₁.length = obs₁.length)
    (h : execA items a (ops₁ ++ op :: ops₂) (obs₁ ++ .none :: obs₂) = some a') :
    ∃ a₁, execA items a ops₁ obs₁ = some a₁ ∧
      op.reads = true ∧
      a₁.k = items.length ∧
      a'.k = items.length ∧
      (∀ p ∈ ops₂.zip obs₂, p.1.reads = true → p.2 = .none) ∧
      (NoErrObs obs₁ → ∃ xs : List FqRec,
        items.drop a.k = xs.map FqItem.record ∧ deliveredRecs items a ops₁ obs₁ = xs.map recOf) := by
  obtain ⟨a₁, a₂, h1, h3, h4⟩ := (execA_iff.mp h).cut hlen
  rw [SeekFree, List.forall_mem_append, List.forall_mem_cons] at hns
  obtain ⟨hr, he1, hk2⟩ := (accept_obs h3).1 rfl
  obtain ⟨hk', hall, _⟩ := run_atEnd (hk2 ▸ he1) hns.2.2 h4
  have hk1 : a₁.k = items.length := Nat.le_antisymm (run_le h1 hk) he1
  refine ⟨a₁, execA_iff.mpr h1, hr, hk1, by omega, hall, fun hne => ?_⟩
  obtain ⟨xs, e, r⟩ := (run_delivers h1 hns.1 hne).2
  rw [hk1, seg_all] at e
  exact ⟨xs, e, r⟩

/-- the error item, if there is one, is the last item (true of `Spec.fastq`: `fastq_err_last`) -/
def ErrLast (items : List FqItem) : Prop :=
  ∀ q e b l, items[q]? = some (.err e b l) → q + 1 = items.length

/-- In an accepted history without seeks, split at an error observation.  Before it,
the records `k₀, …, k₁ - 1` were delivered (if no other error was observed).  The error is the
first error item at or after the cursor `k₁`, with only records in between (none for a
single-record read).  Afterwards every reading operation reports the end of the input: the
error is reported once.  If the error item is the last item, nothing follows it. -/
theorem accepted_error_once {items : List FqItem} {a a' : AState} {ops₁ ops₂ : List Op}
    {obs₁ obs₂ : List ObsH} {op : Op} {e : Err}
    (hns : SeekFree (ops₁ ++ op :: ops₂)) (hlen : ops₁.length = obs₁.length)
    (h : execA items a (ops₁ ++ op :: ops₂) (obs₁ ++ .error e :: obs₂) = some a') :
    ∃ a₁, execA items a ops₁ obs₁ = some a₁ ∧
      op.reads = true ∧
      (NoErrObs obs₁ → IsSegment items a.k a₁.k (deliveredRecs items a ops₁ obs₁)) ∧
      (∃ q e' b l, items[q]? = some (.err e' b l) ∧ e = specErr e' ∧ a₁.k ≤ q ∧
        (∃ xs : List FqRec, (items.drop a₁.k).take (q - a₁.k) = xs.map FqItem.record) ∧
        (op = .next ∨ op = .owned → q = a₁.k) ∧
        (ErrLast items → q + 1 = items.length)) ∧
      a'.k = items.length ∧
      (∀ p ∈ ops₂.zip obs₂, p.1.reads = true → p.2 = .none) ∧
      NoErrObs obs₂ := by
  obtain ⟨a₁, a₂, h1, h3, h4⟩ := (execA_iff.mp h).cut hlen
  rw [SeekFree, List.forall_mem_append, List.forall_mem_cons] at hns
  obtain ⟨hr, hk2, q, e', b, l, hq, he, hle, hxs, hsingle⟩ := (accept_obs h3).2.1 e rfl
  obtain ⟨hk', hall, hno⟩ := run_atEnd (Nat.le_of_eq hk2.symm) hns.2.2 h4
  exact ⟨a₁, execA_iff.mpr h1, hr, fun hne => (run_delivers h1 hns.1 hne).2,
    ⟨q, e', b, l, hq, he, hle, hxs, hsingle, fun hl => hl q e' b l hq⟩, hk'.trans hk2, hall, hno⟩

/-! ## FASTQ: sizes of record sets -/

theorem acceptA_batch_inv {items : List FqItem} {a a' : AState} {j m : Nat} {n : Option Nat}
    (h : acceptA items a (.set j n) (.batch m) = some a') :
    batchOk n m (leadRecs (items.drop a.k)).length
      (items[a.k + (leadRecs (items.drop a.k)).length]?).isSome = true ∧
    a' = ({ a with k := a.k + m, last := .set } : AState).putSet j
      { recs := (leadRecs (items.drop a.k)).take m, altEmpty := false } := by
  have h : acceptSet items a j n (.batch m) = some a' := h
  rcases acceptSet_inv h with ⟨ho, _⟩ | ⟨e, _, _, ho, _⟩ | ⟨m', ho, hok, ha⟩
  · cases ho
  · cases ho
  · cases ho; exact ⟨hok, ha⟩

/-- an accepted plain set read delivers at least one record and at most the valid
records ahead -/
theorem accepted_batch_sizes_plain {items : List FqItem} {a a' : AState} {j m : Nat}
    (h : acceptA items a (.set j none) (.batch m) = some a') :
    1 ≤ m ∧ m ≤ (leadRecs (items.drop a.k)).length ∧ a'.k = a.k + m := by
  obtain ⟨hok, rfl⟩ := acceptA_batch_inv h
  exact ⟨(batchOk_le hok).1, (batchOk_le hok).2, putSet_k ..⟩

/-- an accepted exact read of `n` records delivers exactly `n` records, or – if fewer
valid records are ahead – all of them, and then only if the input ends behind them (if an error
item follows within reach, the read has to report the error instead) -/
theorem accepted_batch_sizes_exact {items : List FqItem} {a a' : AState} {j n m : Nat}
    (h : acceptA items a (.set j (some n)) (.batch m) = some a') :
    1 ≤ m ∧ m = min n (leadRecs (items.drop a.k)).length ∧ a'.k = a.k + m ∧
    (m < n → items.length = a.k + m) := by
  obtain ⟨hok, rfl⟩ := acceptA_batch_inv h
  unfold batchOk at hok
  simp only [decide_eq_true_eq] at hok
  obtain ⟨h1, h2, h3⟩ := hok
  refine ⟨h1, h2, putSet_k .., fun hlt => ?_⟩
  have hlen : (leadRecs (items.drop a.k)).length < n := by omega
  have hge : items.length ≤ a.k + (leadRecs (items.drop a.k)).length :=
    List.getElem?_eq_none_iff.mp (Option.not_isSome_iff_eq_none.mp fun hs => h3 ⟨hs, hlen⟩)
  have := lead_le items a.k
  omega

/-! ## FASTQ: filled sets stay unchanged -/

/-- the set is expected to hold the records `rs` (`strict`: and cannot have been emptied) -/
def Holds (s : ASet) (rs : List Rec) (strict : Bool) : Prop :=
  s.recs = rs ∧ (strict = true → s.altEmpty = false)

/-- the only observation that changes what set `j` is expected to hold is a batch for that set;
a set read on it that reports the end or an error may empty it -/
theorem accept_holds {items : List FqItem} {a a' : AState} {op : Op} {o : ObsH} {j : Nat}
    {rs : List Rec} {strict : Bool}
    (h : acceptA items a op o = some a') (hh : Holds (a.getSet j) rs strict)
    (hno : if strict then ∀ j' n, op = .set j' n → slot j' ≠ slot j
           else ∀ j' n m, (op, o) = (.set j' n, .batch m) → slot j' ≠ slot j) :
    Holds (a'.getSet j) rs strict := by
  cases op with
  | set j' n =>
    -- a call that may empty the set it is given: no records change; the flag of another set stays
    have hmark : ∀ b : AState, (∀ i, b.getSet i = a.getSet i) →
        Holds ((b.putSet j' { b.getSet j' with altEmpty := true }).getSet j) rs strict :=
      fun b hb => ⟨(getSet_mark_recs b j' j).trans ((congrArg ASet.recs (hb j)).trans hh.1),
        fun hs => by
          subst hs
          rw [getSet_putSet_other _ _ _ _ (Ne.symm (hno j' n rfl)), hb]
          exact hh.2 rfl⟩
    rcases acceptSet_inv h with ⟨_, _, rfl⟩ | ⟨e, _, _, _, _, _, rfl⟩ | ⟨m, rfl, _, rfl⟩
    · exact hmark _ fun _ => rfl
    · exact hmark _ fun _ => rfl
    · have hjj : slot j' ≠ slot j := by
        cases strict with
        | true => exact hno j' n rfl
        | false => exact hno j' n m rfl
      rw [getSet_putSet_other _ _ _ _ (Ne.symm hjj)]
      exact hh
  | _ => exact (accept_effect h).sets_eq nofun j ▸ hh

theorem batch_holds {items : List FqItem} {a a' : AState} {j m : Nat} {n : Option Nat}
    (h : acceptA items a (.set j n) (.batch m) = some a') (strict : Bool) :
    Holds (a'.getSet j) (deliveredStep items a (.set j n) (.batch m)) strict := by
  obtain ⟨_, rfl⟩ := acceptA_batch_inv h
  rw [getSet_putSet_self]
  exact ⟨rfl, fun _ => rfl⟩

theorem dump_holds {items : List FqItem} {a a' : AState} {j : Nat} {rs l : List Rec} {strict : Bool}
    (h : acceptA items a (.dump j) (.dump l) = some a') (hh : Holds (a.getSet j) rs strict) :
    l = rs ∨ (strict = false ∧ l = []) := by
  have h : acceptDump a j (.dump l) = some a' := h
  obtain ⟨_, l', ho, hcase⟩ := acceptDump_inv h
  cases ho
  rcases hcase with hl | ⟨he, hl⟩
  · exact .inl (hl.trans hh.1)
  · cases strict with
    | true => cases (hh.2 rfl).symm.trans he
    | false => exact .inr ⟨rfl, hl⟩

/-- "Earlier filled sets stay unchanged."  Set `j` is filled with `m` records, then anything
happens (reads, other sets, seeks) except a set read on this set, then it is dumped: the dump
shows the `m` records of S at the cursor at the time the set was filled. -/
theorem accepted_dump_snapshot {items : List FqItem} {a a' : AState} {j m : Nat} {n : Option Nat}
    {mid : List Op} {obsMid : List ObsH} {l : List Rec}
    (hlen : mid.length = obsMid.length)
    (hmid : ∀ j' n', .set j' n' ∈ mid → slot j' ≠ slot j)
    (h : execA items a (.set j n :: (mid ++ [.dump j])) (.batch m :: (obsMid ++ [.dump l])) = some a') :
    l = deliveredStep items a (.set j n) (.batch m) ∧
    IsSegment items a.k (a.k + m) l := by
  obtain ⟨_, _, h1, hh, h5⟩ := (execA_iff.mp h).bracket hlen (fun _ h1 => batch_holds h1 true)
    fun p hp _ _ hb hs => accept_holds hs hb fun j' n' hpn => hmid j' n' (hpn ▸ (List.of_mem_zip hp).1)
  rcases dump_holds h5 hh with rfl | ⟨hs, _⟩
  · obtain ⟨hk, hseg⟩ := (accept_effect h1).cursor rfl nofun
    exact ⟨rfl, hk ▸ hseg⟩
  · cases hs

/-- If in between the set was passed to set reads that reported the end of the input
or an error (but never filled it again), the dump shows the same records or nothing. -/
theorem accepted_dump_snapshot_or_empty {items : List FqItem} {a a' : AState} {j m : Nat}
    {n : Option Nat} {mid : List Op} {obsMid : List ObsH} {l : List Rec}
    (hlen : mid.length = obsMid.length)
    (hmid : ∀ p ∈ mid.zip obsMid, ∀ j' n' m', p = (.set j' n', .batch m') → slot j' ≠ slot j)
    (h : execA items a (.set j n :: (mid ++ [.dump j])) (.batch m :: (obsMid ++ [.dump l])) = some a') :
    l = deliveredStep items a (.set j n) (.batch m) ∨ l = [] := by
  obtain ⟨_, _, _, hh, h5⟩ := (execA_iff.mp h).bracket hlen (fun _ h1 => batch_holds h1 false)
    fun p hp _ _ hb hs => accept_holds hs hb (hmid p hp)
  exact (dump_holds h5 hh).imp_right And.right

/-! ## FASTQ: seeks -/

/-- After an accepted seek to item `i` the cursor is `i`; the reads that follow (up to
the next seek or error) deliver the items `i, i+1, …` in order, each once, and all of them are
records. -/
theorem accepted_after_seek {items : List FqItem} {a a' : AState} {i : Nat} {o : ObsH}
    {ops : List Op} {obs : List ObsH} (hi : i < items.length) (hns : SeekFree ops) (hne : NoErrObs obs)
    (h : execA items a (.seekItem i :: ops) (o :: obs) = some a') :
    o = .done ∧
    a'.k = i + deliveredCounts ops obs ∧
    IsSegment items i a'.k (deliveredRecs items a (.seekItem i :: ops) (o :: obs)) := by
  obtain ⟨a₁, h1, h2⟩ := (execA_iff.mp h).uncons
  rcases acceptSeek_inv h1 with ⟨ho, _, rfl⟩ | ⟨_, hge, _⟩
  · obtain ⟨hc, hd⟩ := run_delivers h2 hns hne
    refine ⟨ho, hc, ?_⟩
    simp only [deliveredRecs, h1, deliveredStep, List.nil_append]
    exact hd
  · omega

/-! ## FASTQ: the items of S end with at most one error -/

theorem fqGo_err_last (strict : Bool) (ps : List (List UInt8)) (byte line : Nat) :
    ErrLast (fqGo strict ps byte line) := by
  fun_induction fqGo strict ps byte line with
  | case1 h s p q r rest byte line x hx ih =>
    intro i e b l hi
    cases i with
    | zero => simp at hi
    | succ i =>
      simp only [List.getElem?_cons_succ] at hi
      have := ih i e b l hi
      simp only [List.length_cons]
      omega
  | case2 h s p q r rest byte line e b l hx =>
    intro i e' b' l' hi
    cases i with
    | zero => rfl
    | succ i => simp at hi
  | case3 h s p q byte line =>
    intro i e' b' l' hi
    cases i with
    | zero => rfl
    | succ i => simp at hi
  | case4 ps byte line _ _ hall =>
    intro i e' b' l' hi
    simp at hi
  | case5 ps byte line _ _ hall =>
    intro i e' b' l' hi
    cases i with
    | zero => rfl
    | succ i => simp at hi

theorem fastq_err_last (inp : List UInt8) (strict : Bool) : ErrLast (Spec.fastq inp strict) :=
  fqGo_err_last strict (splitLF inp) 0 1

/-! ## FASTQ: summary in terms of `acceptsA` -/

/-- C04 for FASTQ in one statement -/
theorem acceptsA_delivers {items : List FqItem} {a : AState} {ops : List Op} {obs : List ObsH}
    (hns : SeekFree ops) (hne : NoErrObs obs) (h : acceptsA items a ops obs = true) :
    ∃ a', execA items a ops obs = some a' ∧
      a'.k = a.k + deliveredCounts ops obs ∧
      IsSegment items a.k (a.k + deliveredCounts ops obs) (deliveredRecs items a ops obs) := by
  obtain ⟨a', h'⟩ := acceptsA_iff.mp h
  obtain ⟨hc, hd⟩ := run_delivers h' hns hne
  exact ⟨a', execA_iff.mpr h', hc, hc ▸ hd⟩

/-- the statements are not vacuous: a small accepted history -/
example :
    let x0 : FqRec := { byte := 0, line := 1, head := [65], seq := [67], qual := [33] }
    let items : List FqItem := [.record x0, .err (.unexpectedEnd 6 none) 8 5]
    acceptsA items {} [.next, .set 0 none, .dump 0, .next, .seekItem 0, .set 1 (some 2), .owned]
      [.record (recOf x0), .error (specErr (.unexpectedEnd 6 none)), .dump [], .none, .done,
       .error (specErr (.unexpectedEnd 6 none)), .none] = true := by decide

end SeqIo.Fastq.Hist
