import SeqIoModel.Model.History
import SeqIoModel.Model.HistoryFq
/-!
# A record-set read does not depend on what the set held before (property C04)

`readRecordSetExact` (FASTA and FASTQ) is run on the same reader with two arbitrary record sets
`rs`, `rs'`.  The new reader state, the result and everything a caller can see of the set afterwards
coincide.  Both halves go the same way: `readRecordSetExact` is a first stage `pre` that does not touch
the set, followed by `setLoop` (`readRecordSetExact_eq`); `setLoop_rel` carries a relation `Rel` between
the two runs through the loop, and `assemble_cases` says what that means for the whole call.
-/

namespace SeqIo.SetIndependence

/-! ## FASTA -/

namespace Fa
open SeqIo.Fasta

/-- the two sets show the same records: same count, same visible prefix (and the count is within the
stored positions, an invariant of every set that went through `npos := 0` and `store`). -/
structure Sim (rs rs' : RecordSet) : Prop where
  npos : rs.npos = rs'.npos
  le : rs.npos ≤ rs.positions.length
  le' : rs'.npos ≤ rs'.positions.length
  vis : rs.positions.take rs.npos = rs'.positions.take rs'.npos

theorem sim_zero (rs rs' : RecordSet) : Sim { rs with npos := 0 } { rs' with npos := 0 } :=
  ⟨rfl, Nat.zero_le _, Nat.zero_le _, by simp⟩

theorem store_le (rs : RecordSet) (bp : BufPos) (h : rs.npos ≤ rs.positions.length) :
    (rs.store bp).npos ≤ (rs.store bp).positions.length := by
  simp only [RecordSet.store]
  split <;> simp <;> omega

/-- `store` writes slot `npos` only: the visible prefix grows by exactly the stored position, whether
the slot is overwritten (`set`) or appended. -/
theorem store_take (rs : RecordSet) (bp : BufPos) (h : rs.npos ≤ rs.positions.length) :
    (rs.store bp).positions.take (rs.store bp).npos = rs.positions.take rs.npos ++ [bp] := by
  simp only [RecordSet.store]
  split
  · next hlt =>
    rw [List.take_succ_eq_append_getElem (by rw [List.length_set]; exact hlt),
      List.take_set_of_le (Nat.le_refl _), List.getElem_set_self]
  · have he : rs.npos = rs.positions.length := by omega
    rw [he, List.take_of_length_le (by simp), List.take_of_length_le (Nat.le_refl _)]

theorem store_sim (rs rs' : RecordSet) (bp : BufPos) (h : Sim rs rs') : Sim (rs.store bp) (rs'.store bp) :=
  ⟨by simp [RecordSet.store, h.npos], store_le rs bp h.le, store_le rs' bp h.le',
   by rw [store_take rs bp h.le, store_take rs' bp h.le', h.vis]⟩

theorem storeStep_eq (n : Option Nat) (r : Reader) (rs : RecordSet) :
    storeStep n r rs =
      match incrementRecord r with
      | none => none
      | some r' => some (r', rs.store r.bp, decide (n = some (rs.npos + 1))) := rfl

theorem resume_ne_ok_false : ∀ (f : Nat) (mk : Bool) (r : Reader), (resume f mk r).2 ≠ .ok false := by
  intro f
  induction f with
  | zero => intro mk r; simp [resume]
  | succ f ih =>
    intro mk r
    rw [resume]
    split
    · split
      · simp
      · split
        · simp
        · simp
        · exact ih _ _
    all_goals simp

/-- Outcomes of the loop started on two sets that show the same records and carry the buffers `b`
and `b'`: equal readers, equal results, sets that still show the same records and still carry
their buffers; the loop never answers `None`, and after an error the sets show nothing. -/
structure Rel (b b' : List UInt8) (x y : Reader × RecordSet × Res Bool) : Prop where
  reader : x.1 = y.1
  res : x.2.2 = y.2.2
  sim : Sim x.2.1 y.2.1
  buf : x.2.1.buffer = b
  buf' : y.2.1.buffer = b'
  some : x.2.2 ≠ .ok false
  err : ∀ e, x.2.2 = .err e → x.2.1.npos = 0

theorem Rel.stop {rs rs' : RecordSet} (h : Sim rs rs') (r : Reader) {o : Res Bool}
    (ho : o ≠ .ok false) (he : ∀ e, o ≠ .err e) : Rel rs.buffer rs'.buffer (r, rs, o) (r, rs', o) :=
  ⟨rfl, rfl, h, rfl, rfl, ho, fun e h => absurd h (he e)⟩

theorem storeCont_rel (n : Option Nat) (r : Reader) (rs rs' : RecordSet) (h : Sim rs rs')
    (k : Reader → RecordSet → Reader × RecordSet × Res Bool)
    (hk : ∀ r s s', Sim s s' → Rel s.buffer s'.buffer (k r s) (k r s')) :
    Rel rs.buffer rs'.buffer
        (match storeStep n r rs with
          | none => (r, rs, .panic)
          | some (r, rs, true) => (r, rs, .ok true)
          | some (r, rs, false) => k r rs)
        (match storeStep n r rs' with
          | none => (r, rs', .panic)
          | some (r, rs, true) => (r, rs, .ok true)
          | some (r, rs, false) => k r rs) := by
  rw [storeStep_eq, storeStep_eq, ← h.npos]
  cases incrementRecord r with
  | none => exact .stop h _ nofun fun _ => nofun
  | some r1 =>
    cases decide (n = some (rs.npos + 1)) with
    | true => exact .stop (store_sim _ _ _ h) _ nofun fun _ => nofun
    | false => exact hk _ _ _ (store_sim _ _ _ h)

theorem setLoop_rel (fuel : Nat) (n : Option Nat) : ∀ (f : Nat) (isNew : Bool) (r : Reader)
    (rs rs' : RecordSet), Sim rs rs' →
    Rel rs.buffer rs'.buffer (setLoop f fuel n isNew r rs) (setLoop f fuel n isNew r rs') := by
  intro f
  induction f with
  | zero => intro isNew r rs rs' h; exact .stop h _ nofun fun _ => nofun
  | succ f ih =>
    intro isNew r rs rs' h
    rw [setLoop, setLoop]
    by_cases hfin : r.state = .finished
    · rw [if_pos hfin, if_pos hfin]; exact .stop h _ nofun fun _ => nofun
    · rw [if_neg hfin, if_neg hfin]
      by_cases hinc : r.state = .incomplete
      · rw [if_pos hinc, if_pos hinc]
        have hne := resume_ne_ok_false fuel isNew r
        generalize resume fuel isNew r = x at hne
        rcases x with ⟨r1, o⟩
        cases o with
        | ok b =>
          cases b with
          | true => exact storeCont_rel n _ rs rs' h _ (fun r s s' hs => ih isNew r s s' hs)
          | false => exact absurd rfl hne
        | err e => exact ⟨rfl, rfl, sim_zero _ _, rfl, rfl, nofun, fun _ _ => rfl⟩
        | panic | fuel => exact .stop h _ nofun fun _ => nofun
      · rw [if_neg hinc, if_neg hinc]
        cases search r with
        | none => exact .stop h _ nofun fun _ => nofun
        | some x =>
          rcases x with ⟨r1, b⟩
          cases b with
          | true => exact storeCont_rel n _ rs rs' h _ (fun r s s' hs => ih isNew r s s' hs)
          | false =>
            simp only [← h.npos]
            by_cases h0 : rs.npos = 0
            · simp only [h0, if_true]; exact ih _ _ _ _ h
            · simp only [h0, if_false]
              cases n with
              | none => exact .stop h _ nofun fun _ => nofun
              | some n' =>
                by_cases hlt : rs.npos < n'
                · simp only [hlt, if_true]; exact ih _ _ _ _ h
                · simp only [hlt, if_false]; exact .stop h _ nofun fun _ => nofun

/-- the stage of `read_record_set_exact` before `rset.npos = 0` -/
def pre (fuel : Nat) (r : Reader) : Reader × Res Bool :=
  match r.state with
  | .new =>
    match init fuel r with
    | (r, .ok true) => ({ r with state := .positioned }, .ok true)
    | x => x
  | .finished => (r, .ok false)
  | .parsing =>
    match incrementRecord r with
    | some r => ({ r with state := .positioned }, .ok true)
    | none => (r, .panic)
  | .positioned => (r, .ok true)
  | .incomplete => (r, .ok true)

def assemble (p : Reader × Res Bool) (rs : RecordSet) (loop : Reader → Reader × RecordSet × Res Bool) :
    Reader × RecordSet × Res Bool :=
  match p with
  | (r, .ok true) =>
    match loop r with
    | (r, rs, .ok true) => (r, { rs with buffer := r.br.buf }, .ok true)
    | x => x
  | (r, .ok false) => (r, rs, .ok false)
  | (r, .err e) => (r, rs, .err e)
  | (r, .panic) => (r, rs, .panic)
  | (r, .fuel) => (r, rs, .fuel)

theorem readRecordSetExact_eq (fuel : Nat) (r : Reader) (rs : RecordSet) (n : Option Nat) :
    readRecordSetExact fuel r rs n =
      assemble (pre fuel r) rs (fun r0 => setLoop fuel fuel n true r0 { rs with npos := 0 }) := rfl

theorem pre_err (fuel : Nat) (r : Reader) (e : Err) (h : (pre fuel r).2 = .err e) :
    r.state = .new ∧ (init fuel r).2 = .err e := by
  unfold pre at h
  split at h
  · refine ⟨by assumption, ?_⟩
    split at h
    · simp at h
    · exact h
  · simp at h
  · split at h <;> simp at h
  · simp at h
  · simp at h

/-- Two reads from the same reader into the sets `rs`, `rs'`, by the outcome
`p` of the stage before the loop (`readRecordSetExact_eq`).

* Either the read ended before the set was touched (end of input, or a failure of `init` on a new
  reader): both sets are exactly what they were.
* Or the loop ran: the result is never `None`; both sets show the same records (`Sim`); after a
  successful read both carry the reader's buffer, otherwise each keeps its old buffer; after an error
  both show nothing. -/
theorem assemble_cases (p : Reader × Res Bool) (rs rs' : RecordSet)
    (x y : Reader → Reader × RecordSet × Res Bool)
    (hrel : ∀ r0, Rel rs.buffer rs'.buffer (x r0) (y r0)) :
    let a := assemble p rs x
    let b := assemble p rs' y
    a.1 = b.1 ∧ a.2.2 = b.2.2 ∧
    ((p.2 ≠ .ok true ∧ a.2.2 = p.2 ∧ a.2.1 = rs ∧ b.2.1 = rs') ∨
     (p.2 = .ok true ∧ a.2.2 ≠ .ok false ∧ Sim a.2.1 b.2.1 ∧
      (a.2.2 = .ok true → a.2.1.buffer = a.1.br.buf ∧ b.2.1.buffer = a.1.br.buf) ∧
      (a.2.2 ≠ .ok true → a.2.1.buffer = rs.buffer ∧ b.2.1.buffer = rs'.buffer) ∧
      (∀ e, a.2.2 = .err e → a.2.1.npos = 0 ∧ b.2.1.npos = 0))) := by
  rcases p with ⟨r0, o⟩
  cases o with
  | ok b0 =>
    cases b0 with
    | false => exact ⟨rfl, rfl, .inl ⟨nofun, rfl, rfl, rfl⟩⟩
    | true =>
      have hrel := hrel r0
      dsimp only [assemble]
      generalize x r0 = xa at hrel
      generalize y r0 = ya at hrel
      rcases xa with ⟨ra, sa, oa⟩
      rcases ya with ⟨rb, sb, ob⟩
      obtain ⟨h1, h2, h3, hb, hb', hne, herr⟩ := hrel
      simp only at h1 h2 h3 hb hb' hne herr
      subst h1 h2
      cases oa with
      | ok b1 =>
        cases b1 with
        | true => exact ⟨rfl, rfl, .inr ⟨rfl, nofun, ⟨h3.npos, h3.le, h3.le', h3.vis⟩, fun _ => ⟨rfl, rfl⟩,
            fun h => absurd rfl h, fun _ => nofun⟩⟩
        | false => exact absurd rfl hne
      | _ => exact ⟨rfl, rfl, .inr ⟨rfl, nofun, h3, nofun, fun _ => ⟨hb, hb'⟩,
          fun e he => ⟨herr e he, h3.npos ▸ herr e he⟩⟩⟩
  | _ => exact ⟨rfl, rfl, .inl ⟨nofun, rfl, rfl, rfl⟩⟩

theorem obsDump_congr {s s' : RecordSet} (h : Sim s s') (hb : s.buffer = s'.buffer) :
    Hist.obsDump s = Hist.obsDump s' := by
  simp only [Hist.obsDump, h.vis, hb]

theorem obsDump_of_npos_zero (s : RecordSet) (h : s.npos = 0) : Hist.obsDump s = .dump [] := by
  simp [Hist.obsDump, h, allSome]

/-- Same reader state and same result whatever the set held; after a successful read
the same visible records; after end of input both sets are exactly what they were; after an error
both sets show nothing – *unless* the error came from `init` of a new reader, which returns before
`rset.npos = 0`: then both sets are exactly what they were (see `fasta_error_clause_counterexample`). -/
theorem fasta_set_read_independent_of_old_set (fuel : Nat) (r : Reader) (rs rs' : RecordSet) (n : Option Nat) :
    let a := readRecordSetExact fuel r rs n
    let b := readRecordSetExact fuel r rs' n
    a.1 = b.1 ∧ a.2.2 = b.2.2 ∧
    (a.2.2 = .ok true →
       a.2.1.npos = b.2.1.npos ∧ a.2.1.buffer = b.2.1.buffer ∧
       a.2.1.positions.take a.2.1.npos = b.2.1.positions.take b.2.1.npos ∧
       Hist.obsDump a.2.1 = Hist.obsDump b.2.1) ∧
    (a.2.2 = .ok false → a.2.1 = rs ∧ b.2.1 = rs') ∧
    (∀ e, a.2.2 = .err e →
       (a.2.1.npos = 0 ∧ b.2.1.npos = 0 ∧ Hist.obsDump a.2.1 = .dump [] ∧ Hist.obsDump b.2.1 = .dump []) ∨
       (r.state = .new ∧ (init fuel r).2 = .err e ∧ a.2.1 = rs ∧ b.2.1 = rs')) ∧
    (r.state ≠ .new → (∃ e, a.2.2 = .err e) → a.2.1.npos = 0 ∧ b.2.1.npos = 0) := by
  rw [readRecordSetExact_eq, readRecordSetExact_eq]
  intro a b
  obtain ⟨h1, h2, hc⟩ := assemble_cases (pre fuel r) rs rs'
    (fun r0 => setLoop fuel fuel n true r0 { rs with npos := 0 })
    (fun r0 => setLoop fuel fuel n true r0 { rs' with npos := 0 })
    (fun r0 => setLoop_rel fuel n fuel true r0 _ _ (sim_zero rs rs'))
  rcases hc with ⟨hne, hp, hs, hs'⟩ | ⟨_, hne, hsim, hbuf, _, hz⟩
  · -- the read ended before the set was touched; an error then comes from `init` of a new reader
    have herr := fun e (he : a.2.2 = .err e) => pre_err fuel r e (hp.symm.trans he)
    exact ⟨h1, h2, fun hok => absurd (hp.symm.trans hok) hne, fun _ => ⟨hs, hs'⟩,
      fun e he => .inr ⟨(herr e he).1, (herr e he).2, hs, hs'⟩,
      fun hnew ⟨e, he⟩ => absurd (herr e he).1 hnew⟩
  · -- the loop ran
    refine ⟨h1, h2, fun hok => ?_, fun hf => absurd hf hne, fun e he => .inl ⟨(hz e he).1, (hz e he).2,
      obsDump_of_npos_zero _ (hz e he).1, obsDump_of_npos_zero _ (hz e he).2⟩, fun _ ⟨e, he⟩ => hz e he⟩
    have hbb : a.2.1.buffer = b.2.1.buffer := (hbuf hok).1.trans (hbuf hok).2.symm
    exact ⟨hsim.npos, hbb, hsim.vis, obsDump_congr hsim hbb⟩

/-- Counterexample to "after an error both sets show nothing":
a new reader whose first read fails (here: the input does not start with `>`) returns the error
before `rset.npos = 0`, so a set filled earlier (by another reader) still shows its old records. -/
theorem fasta_error_clause_counterexample :
    let r := mkReader [120] 8 PolDesc.std.toPol
    let rs : RecordSet := { buffer := [62, 97, 10, 65, 10], positions := [{ start := 0, seqPos := [2, 4] }], npos := 1 }
    let a := readRecordSetExact 10 r rs none
    a.2.2 = .err (.invalidStart 1 120) ∧ a.2.1.npos = 1 ∧
      Hist.obsDump a.2.1 = .dump [([97], [[65]])] := by
  decide

/-- Two readers sharing a set: filling `rs` from `r1` and then from `r2` shows, after a successful
second read, exactly what filling a fresh set from `r2` shows (and leaves `r2` in the same state). -/
theorem fasta_shared_set_shows_only_second_reader (f1 f2 : Nat) (r1 r2 : Reader) (rs : RecordSet)
    (n1 n2 : Option Nat)
    (hok : (readRecordSetExact f2 r2 (readRecordSetExact f1 r1 rs n1).2.1 n2).2.2 = .ok true) :
    Hist.obsDump (readRecordSetExact f2 r2 (readRecordSetExact f1 r1 rs n1).2.1 n2).2.1 =
      Hist.obsDump (readRecordSetExact f2 r2 {} n2).2.1 ∧
    (readRecordSetExact f2 r2 (readRecordSetExact f1 r1 rs n1).2.1 n2).1 = (readRecordSetExact f2 r2 {} n2).1 ∧
    (readRecordSetExact f2 r2 {} n2).2.2 = .ok true := by
  have h := fasta_set_read_independent_of_old_set f2 r2 (readRecordSetExact f1 r1 rs n1).2.1 {} n2
  simp only at h
  exact ⟨(h.2.2.1 hok).2.2.2, h.1, h.2.1.symm.trans hok⟩

/-- The same with two real readers: `r1` fills the set, then a new reader `r2` whose very first read
fails with an I/O error is asked to refill it.  The error is returned, and the set still shows the
record of `r1`. -/
theorem fasta_two_readers_init_error_keeps_old_records :
    let r1 := mkReader [62, 97, 10, 65, 10] 8 PolDesc.std.toPol               -- ">a\nA\n"
    let r2 := mkReader [62, 98, 10, 67, 10] 8 PolDesc.std.toPol [.fail 5]     -- ">b\nC\n", first read fails
    let s1 := (readRecordSetExact 10 r1 {} none).2.1
    let a := readRecordSetExact 10 r2 s1 none
    a.2.2 = .err (.io 5) ∧ a.2.1 = s1 ∧ Hist.obsDump a.2.1 = .dump [([97], [[65]])] := by
  decide

end Fa

/-! ## FASTQ -/

namespace Fq
open SeqIo.Fastq

/-- Outcomes of the loop started on two sets with the same positions that carry the buffers `b`
and `b'`: equal readers, equal results, sets that still hold the same positions and still carry
their buffers; after an error and after `None` the sets are empty. -/
structure Rel (b b' : List UInt8) (x y : Reader × RecordSet × Res Bool) : Prop where
  reader : x.1 = y.1
  res : x.2.2 = y.2.2
  pos : x.2.1.positions = y.2.1.positions
  buf : x.2.1.buffer = b
  buf' : y.2.1.buffer = b'
  empty : x.2.2 = .ok false ∨ (∃ e, x.2.2 = .err e) → x.2.1.positions = []

theorem storeStep_eq (n : Option Nat) (r : Reader) (rs : RecordSet) :
    storeStep n r rs =
      match incrementRecord r with
      | none => none
      | some r' => some (r', { rs with positions := rs.positions ++ [r.bp] },
          decide (n = some (rs.positions ++ [r.bp]).length)) := rfl

theorem Rel.stop {rs rs' : RecordSet} (h : rs.positions = rs'.positions) (r : Reader) {o : Res Bool}
    (ho : o ≠ .ok false) (he : ∀ e, o ≠ .err e) : Rel rs.buffer rs'.buffer (r, rs, o) (r, rs', o) :=
  ⟨rfl, rfl, h, rfl, rfl, fun h => h.elim (absurd · ho) fun ⟨e, h⟩ => absurd h (he e)⟩

theorem storeCont_rel (n : Option Nat) (r : Reader) (rs rs' : RecordSet) (h : rs.positions = rs'.positions)
    (k : Reader → RecordSet → Reader × RecordSet × Res Bool)
    (hk : ∀ r s s', s.positions = s'.positions → Rel s.buffer s'.buffer (k r s) (k r s')) :
    Rel rs.buffer rs'.buffer
        (match storeStep n r rs with
          | none => (r, rs, .panic)
          | some (r, rs, true) => (r, rs, .ok true)
          | some (r, rs, false) => k r rs)
        (match storeStep n r rs' with
          | none => (r, rs', .panic)
          | some (r, rs, true) => (r, rs, .ok true)
          | some (r, rs, false) => k r rs) := by
  rw [storeStep_eq, storeStep_eq, ← h]
  cases incrementRecord r with
  | none => exact .stop h _ nofun fun _ => nofun
  | some r1 =>
    cases decide (n = some (rs.positions ++ [r.bp]).length) with
    | true =>
      exact .stop (rs := { rs with positions := rs.positions ++ [r.bp] })
        (rs' := { rs' with positions := rs.positions ++ [r.bp] }) rfl _ nofun fun _ => nofun
    | false =>
      exact hk r1 { rs with positions := rs.positions ++ [r.bp] }
        ({ rs' with positions := rs.positions ++ [r.bp] }) rfl

theorem setLoop_rel (fuel : Nat) (n : Option Nat) : ∀ (f : Nat) (isNew : Bool) (r : Reader)
    (rs rs' : RecordSet), rs.positions = rs'.positions →
    Rel rs.buffer rs'.buffer (setLoop f fuel n isNew r rs) (setLoop f fuel n isNew r rs') := by
  intro f
  induction f with
  | zero => intro isNew r rs rs' h; exact .stop h _ nofun fun _ => nofun
  | succ f ih =>
    intro isNew r rs rs' h
    have err : ∀ (r : Reader) (e : Err), Rel rs.buffer rs'.buffer
        (r, { rs with positions := [] }, .err e) (r, { rs' with positions := [] }, .err e) :=
      fun _ _ => ⟨rfl, rfl, rfl, rfl, rfl, fun _ => rfl⟩
    rw [setLoop, setLoop]
    by_cases hfin : r.state = .finished
    · rw [if_pos hfin, if_pos hfin]; exact .stop h _ nofun fun _ => nofun
    · rw [if_neg hfin, if_neg hfin]
      cases r.incompletePos with
      | some ip =>
        simp only
        rcases resume fuel ip isNew { r with incompletePos := none } with ⟨r1, o⟩
        cases o with
        | ok b =>
          cases b with
          | true => exact storeCont_rel n _ rs rs' h _ (fun r s s' hs => ih isNew r s s' hs)
          | false =>
            simp only [← h]
            cases hemp : rs.positions.isEmpty with
            | true => exact ⟨rfl, rfl, h, rfl, rfl, fun _ => List.isEmpty_iff.mp hemp⟩
            | false => exact .stop h _ nofun fun _ => nofun
        | err e => exact err _ _
        | panic | fuel => exact .stop h _ nofun fun _ => nofun
      | none =>
        simp only
        rcases search r with ⟨r1, o⟩
        cases o with
        | ok b =>
          cases b with
          | true => exact storeCont_rel n _ rs rs' h _ (fun r s s' hs => ih isNew r s s' hs)
          | false =>
            simp only [← h]
            cases rs.positions.isEmpty with
            | true => exact ih _ _ _ _ h
            | false =>
              cases n with
              | none => exact .stop h _ nofun fun _ => nofun
              | some n' =>
                by_cases hlt : rs.positions.length < n'
                · simp only [hlt, if_true]; exact ih _ _ _ _ h
                · simp only [hlt, if_false]; exact .stop h _ nofun fun _ => nofun
        | err e => exact err _ _
        | panic | fuel => exact .stop h _ nofun fun _ => nofun

/-- the stage of `read_record_set_exact` before `rset.positions.clear()` -/
def pre (r : Reader) : Reader × Res Bool :=
  match r.state with
  | .new =>
    match init r with
    | (r, .ok true) => ({ r with state := .positioned }, .ok true)
    | x => x
  | .finished => (r, .ok false)
  | .parsing =>
    match incrementRecord r with
    | some r => ({ r with state := .positioned }, .ok true)
    | none => (r, .panic)
  | .positioned => (r, .ok true)

def assemble (p : Reader × Res Bool) (rs : RecordSet) (loop : Reader → Reader × RecordSet × Res Bool) :
    Reader × RecordSet × Res Bool :=
  match p with
  | (r, .ok true) =>
    match loop r with
    | (r, rs, .ok true) => (r, { rs with buffer := r.br.buf }, .ok true)
    | x => x
  | (r, .ok false) => (r, rs, .ok false)
  | (r, .err e) => (r, rs, .err e)
  | (r, .panic) => (r, rs, .panic)
  | (r, .fuel) => (r, rs, .fuel)

theorem readRecordSetExact_eq (fuel : Nat) (r : Reader) (rs : RecordSet) (n : Option Nat) :
    readRecordSetExact fuel r rs n =
      assemble (pre r) rs (fun r0 => setLoop fuel fuel n true r0 { rs with positions := [] }) := rfl

theorem pre_err (r : Reader) (e : Err) (h : (pre r).2 = .err e) :
    r.state = .new ∧ (init r).2 = .err e := by
  unfold pre at h
  split at h
  · refine ⟨by assumption, ?_⟩
    split at h
    · simp at h
    · exact h
  · simp at h
  · split at h <;> simp at h
  · simp at h

/-- Two FASTQ reads from the same reader into the sets `rs`, `rs'`, by the
outcome `p` of the stage before the loop (`readRecordSetExact_eq`).

* Either the read ended before the set was touched (end of input seen before the loop, or a failure of
  `init` on a new reader): both sets are exactly what they were.
* Or the loop ran: both sets hold the same positions; after a successful read the two sets are EQUAL and
  carry the reader's buffer; otherwise each keeps its old buffer; after `None` and after an error both
  are empty. -/
theorem assemble_cases (p : Reader × Res Bool) (rs rs' : RecordSet)
    (x y : Reader → Reader × RecordSet × Res Bool)
    (hrel : ∀ r0, Rel rs.buffer rs'.buffer (x r0) (y r0)) :
    let a := assemble p rs x
    let b := assemble p rs' y
    a.1 = b.1 ∧ a.2.2 = b.2.2 ∧
    ((p.2 ≠ .ok true ∧ a.2.2 = p.2 ∧ a.2.1 = rs ∧ b.2.1 = rs') ∨
     (p.2 = .ok true ∧ a.2.1.positions = b.2.1.positions ∧
      (a.2.2 = .ok true → a.2.1 = b.2.1 ∧ a.2.1.buffer = a.1.br.buf) ∧
      (a.2.2 ≠ .ok true → a.2.1.buffer = rs.buffer ∧ b.2.1.buffer = rs'.buffer) ∧
      ((a.2.2 = .ok false ∨ ∃ e, a.2.2 = .err e) → a.2.1.positions = [] ∧ b.2.1.positions = []))) := by
  rcases p with ⟨r0, o⟩
  cases o with
  | ok b0 =>
    cases b0 with
    | false => exact ⟨rfl, rfl, .inl ⟨nofun, rfl, rfl, rfl⟩⟩
    | true =>
      have hrel := hrel r0
      dsimp only [assemble]
      generalize x r0 = xa at hrel
      generalize y r0 = ya at hrel
      rcases xa with ⟨ra, sa, oa⟩
      rcases ya with ⟨rb, sb, ob⟩
      obtain ⟨h1, h2, h3, hb, hb', hemp⟩ := hrel
      simp only at h1 h2 h3 hb hb' hemp
      subst h1 h2
      cases oa with
      | ok b1 =>
        cases b1 with
        | true => exact ⟨rfl, rfl, .inr ⟨rfl, h3, fun _ => ⟨by simp only [h3], rfl⟩,
            fun h => absurd rfl h, fun h => h.elim nofun fun ⟨_, h⟩ => nomatch h⟩⟩
        | false => exact ⟨rfl, rfl, .inr ⟨rfl, h3, nofun, fun _ => ⟨hb, hb'⟩,
            fun h => ⟨hemp h, h3 ▸ hemp h⟩⟩⟩
      | _ => exact ⟨rfl, rfl, .inr ⟨rfl, h3, nofun, fun _ => ⟨hb, hb'⟩,
          fun h => ⟨hemp h, h3 ▸ hemp h⟩⟩⟩
  | _ => exact ⟨rfl, rfl, .inl ⟨nofun, rfl, rfl, rfl⟩⟩

theorem obsDump_of_positions_nil (s : RecordSet) (h : s.positions = []) : Hist.obsDump s = .dump [] := by
  simp [Hist.obsDump, h, Hist.viewAll]

/-- Same reader state and same result whatever the set held; after a successful read
the two sets are equal; after `None` and after an error the two sets are either both empty (the loop
ran) or both exactly what they were (the read ended before `positions.clear()`: end of input known
beforehand, or `init` of a new reader failed); in every case both sets hold the same positions or are
both untouched. -/
theorem fastq_set_read_independent_of_old_set (fuel : Nat) (r : Reader) (rs rs' : RecordSet) (n : Option Nat) :
    let a := readRecordSetExact fuel r rs n
    let b := readRecordSetExact fuel r rs' n
    a.1 = b.1 ∧ a.2.2 = b.2.2 ∧
    (a.2.2 = .ok true → a.2.1 = b.2.1 ∧ Hist.obsDump a.2.1 = Hist.obsDump b.2.1) ∧
    (a.2.2 = .ok false →
       (a.2.1.positions = [] ∧ b.2.1.positions = [] ∧ a.2.1.buffer = rs.buffer ∧ b.2.1.buffer = rs'.buffer) ∨
       (a.2.1 = rs ∧ b.2.1 = rs')) ∧
    (∀ e, a.2.2 = .err e →
       (a.2.1.positions = [] ∧ b.2.1.positions = [] ∧ a.2.1.buffer = rs.buffer ∧ b.2.1.buffer = rs'.buffer ∧
          Hist.obsDump a.2.1 = .dump [] ∧ Hist.obsDump b.2.1 = .dump []) ∨
       (r.state = .new ∧ (init r).2 = .err e ∧ a.2.1 = rs ∧ b.2.1 = rs')) ∧
    (r.state ≠ .new → (∃ e, a.2.2 = .err e) → a.2.1.positions = [] ∧ b.2.1.positions = []) ∧
    ((a.2.1 = rs ∧ b.2.1 = rs') ∨ a.2.1.positions = b.2.1.positions) := by
  rw [readRecordSetExact_eq, readRecordSetExact_eq]
  intro a b
  obtain ⟨h1, h2, hc⟩ := assemble_cases (pre r) rs rs'
    (fun r0 => setLoop fuel fuel n true r0 { rs with positions := [] })
    (fun r0 => setLoop fuel fuel n true r0 { rs' with positions := [] })
    (fun r0 => setLoop_rel fuel n fuel true r0 { rs with positions := [] } { rs' with positions := [] } rfl)
  rcases hc with ⟨hne, hp, hs, hs'⟩ | ⟨_, hpos, heq, hbuf, hz⟩
  · -- the read ended before the set was touched; an error then comes from `init` of a new reader
    have herr := fun e (he : a.2.2 = .err e) => pre_err r e (hp.symm.trans he)
    exact ⟨h1, h2, fun hok => absurd (hp.symm.trans hok) hne, fun _ => .inr ⟨hs, hs'⟩,
      fun e he => .inr ⟨(herr e he).1, (herr e he).2, hs, hs'⟩,
      fun hnew ⟨e, he⟩ => absurd (herr e he).1 hnew, .inl ⟨hs, hs'⟩⟩
  · -- the loop ran
    have hold : (a.2.2 = .ok false ∨ ∃ e, a.2.2 = .err e) →
        a.2.1.buffer = rs.buffer ∧ b.2.1.buffer = rs'.buffer :=
      fun h => hbuf fun hok => h.elim (fun hf => nomatch hf.symm.trans hok)
        fun ⟨_, he⟩ => nomatch he.symm.trans hok
    exact ⟨h1, h2, fun hok => ⟨(heq hok).1, congrArg Hist.obsDump (heq hok).1⟩,
      fun hf => .inl ⟨(hz (.inl hf)).1, (hz (.inl hf)).2, hold (.inl hf)⟩,
      fun e he => have h := hz (.inr ⟨e, he⟩)
        .inl ⟨h.1, h.2, (hold (.inr ⟨e, he⟩)).1, (hold (.inr ⟨e, he⟩)).2,
          obsDump_of_positions_nil _ h.1, obsDump_of_positions_nil _ h.2⟩,
      fun _ he => hz (.inr he), .inr hpos⟩

/-- Counterexample to "the two sets are EQUAL whenever the read got past the first stage": after an
error inside the loop (here an invalid separator line) both sets are empty, but each keeps its old
`buffer` field (the buffer is only installed after a successful read).  Nothing of it is visible:
both dumps are empty. -/
theorem fastq_sets_differ_in_buffer_after_loop_error :
    let r := mkReader [64, 97, 10, 65, 67, 10, 45, 10, 33, 33, 10] 64 PolDesc.std.toPol   -- "@a\nAC\n-\n!!\n"
    let a := readRecordSetExact 20 r { buffer := [1] } none
    let b := readRecordSetExact 20 r {} none
    a.2.2 = .err (.invalidSep 45 { line := 3, id := some [97] }) ∧
      a.2.1 = { buffer := [1], positions := [] } ∧ b.2.1 = { buffer := [], positions := [] } ∧ a.2.1 ≠ b.2.1 := by
  decide

/-- Counterexample to "after an error both sets show nothing": `r1` fills the set, then a new reader
`r2` whose very first read fails with an I/O error is asked to refill it.  `init` returns the error
before `positions.clear()`, and the set still shows the record of `r1`. -/
theorem fastq_two_readers_init_error_keeps_old_records :
    let r1 := mkReader [64, 97, 10, 65, 67, 10, 43, 10, 33, 33, 10] 64 PolDesc.std.toPol              -- "@a\nAC\n+\n!!\n"
    let r2 := mkReader [64, 98, 10, 71, 10, 43, 10, 33, 10] 64 PolDesc.std.toPol [.fail 5]           -- first read fails
    let s1 := (readRecordSetExact 20 r1 {} none).2.1
    let a := readRecordSetExact 20 r2 s1 none
    a.2.2 = .err (.io 5) ∧ a.2.1 = s1 ∧
      Hist.obsDump a.2.1 = .dump [{ head := [97], seq := [65, 67], qual := [33, 33] }] := by
  decide

/-- Two readers sharing a set: filling `rs` from `r1` and then from `r2` gives, after a successful
second read, exactly the set that filling a fresh set from `r2` gives (and leaves `r2` in the same
state). -/
theorem fastq_shared_set_shows_only_second_reader (f1 f2 : Nat) (r1 r2 : Reader) (rs : RecordSet)
    (n1 n2 : Option Nat)
    (hok : (readRecordSetExact f2 r2 (readRecordSetExact f1 r1 rs n1).2.1 n2).2.2 = .ok true) :
    (readRecordSetExact f2 r2 (readRecordSetExact f1 r1 rs n1).2.1 n2).2.1 = (readRecordSetExact f2 r2 {} n2).2.1 ∧
    Hist.obsDump (readRecordSetExact f2 r2 (readRecordSetExact f1 r1 rs n1).2.1 n2).2.1 =
      Hist.obsDump (readRecordSetExact f2 r2 {} n2).2.1 ∧
    (readRecordSetExact f2 r2 (readRecordSetExact f1 r1 rs n1).2.1 n2).1 = (readRecordSetExact f2 r2 {} n2).1 ∧
    (readRecordSetExact f2 r2 {} n2).2.2 = .ok true := by
  have h := fastq_set_read_independent_of_old_set f2 r2 (readRecordSetExact f1 r1 rs n1).2.1 {} n2
  simp only at h
  exact ⟨(h.2.2.1 hok).1, (h.2.2.1 hok).2, h.1, h.2.1.symm.trans hok⟩

end Fq

end SeqIo.SetIndependence
