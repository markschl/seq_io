import SeqIoModel.Proofs.FastqHistorySeek
/-!
# FASTQ histories: every record shown is a record of the input

For every read script (failing reads included), scripted seek failures and policies that may
refuse: whatever the history (seeks included), every record shown by a single-record read, an
owned read or the dump of a record set is a record of `Spec.fastq inp`.  The invariant `GenM` is
`Good` with `G := False`: nothing is assumed of the environment.
-/

namespace SeqIo.Fastq
open SeqIo SeqIo.Spec SeqIo.FillProofs SeqIo.Fastq.Hist SeqIo.WriteProofs

/-- the contents of the records of S -/
def allRecs (inp : List UInt8) : List Rec :=
  (Spec.fastq inp).filterMap fun
    | .record x => some (recOf x)
    | .err _ _ _ => none

def recsOf : ObsH → List Rec
  | .record x => [x]
  | .dump xs => xs
  | _ => []

theorem mem_allRecs_of_drop {inp : List UInt8} {k : Nat} {ys : List FqRec} {rest : List FqItem}
    (h : (Spec.fastq inp).drop k = ys.map FqItem.record ++ rest) :
    ∀ x ∈ ys.map recOf, x ∈ allRecs inp := by
  intro x hx
  obtain ⟨y, hy, rfl⟩ := List.mem_map.mp hx
  have hmem : FqItem.record y ∈ (Spec.fastq inp).drop k := by
    rw [h]; exact List.mem_append_left _ (List.mem_map.mpr ⟨y, hy, rfl⟩)
  have hmem' := List.mem_of_mem_drop hmem
  exact List.mem_filterMap.mpr ⟨_, hmem', rfl⟩

/-- the machine state is genuine: the reader is good for a suffix of S's items, the sets show
records of S -/
def GenM (inp : List UInt8) (m : MSt) : Prop :=
  (∃ k, Good inp False m.r ((Spec.fastq inp).drop k)) ∧
  ∀ j, ∃ recs, viewAll (m.getSet j).buffer (m.getSet j).positions = some recs ∧
    ∀ x ∈ recs, x ∈ allRecs inp

theorem recsOf_obsSeek (res : Res Unit) : recsOf (obsSeek res) = [] := by
  rcases res with (b | _ | _ | _) <;> rfl

/-- a reader that stopped with no items or the same items ahead is good for a suffix of S's items -/
theorem good_suffix {inp : List UInt8} {G : Prop} {r : Reader} {all its' : List FqItem} {k : Nat}
    (h : Good inp G r its') (hi : its' = [] ∨ its' = all.drop k) :
    ∃ k, Good inp G r (all.drop k) := by
  rcases hi with rfl | rfl
  · exact ⟨all.length, by rw [List.drop_length]; exact h⟩
  · exact ⟨k, h⟩

theorem step_genuine (inp : List UInt8) (m : MSt) (hm : GenM inp m) (op : Op) (hwf : op.wf = true) :
    GenM inp (stepM m op).1 ∧ ∀ x ∈ recsOf (stepM m op).2, x ∈ allRecs inp := by
  obtain ⟨⟨k, hg⟩, hsets⟩ := hm
  have hfuel := fuelOf_ge m.r
  have keepSets : ∀ (r' : Reader) (j : Nat), ({ m with r := r' } : MSt).getSet j = m.getSet j :=
    MSt.getSet_with_r m
  have atEnd : ∀ {r' : Reader}, Fin inp False r' →
      ∃ k, Good inp False r' ((Spec.fastq inp).drop k) :=
    fun hfin => ⟨(Spec.fastq inp).length, by rw [List.drop_length]; exact hfin.good⟩
  have nextCase : GenM inp (stepNext m).1 ∧ ∀ x ∈ recsOf (stepNext m).2, x ∈ allRecs inp := by
    have hF := next_found inp False (fuelOf m.r) m.r _ hg (by omega)
    simp only [stepNext]
    rcases hx : next (fuelOf m.r) m.r with ⟨r', res⟩
    rw [hx] at hF
    rcases hF with (⟨hr, x, its', hi, hsh⟩ | ⟨hr, hi, hfin⟩ | ⟨e, b, l, hr, hi, hfin⟩ |
      ⟨e, hr, henv, -, hfin⟩) | ⟨-, hres, its', hg', -, hi'⟩
    · simp only at hr hi hsh
      subst hr
      obtain ⟨hk, hd⟩ := drop_eq_cons hi
      refine ⟨⟨⟨k + 1, by rw [hd]; exact hsh.good⟩, fun j => by rw [keepSets]; exact hsets j⟩, ?_⟩
      simp only [obsNext, hsh.view, recsOf, List.mem_singleton]
      intro y hy
      subst hy
      exact List.mem_filterMap.mpr ⟨_, List.mem_of_getElem? hk, rfl⟩
    iterate 3
      simp only at hr hfin
      subst hr
      refine ⟨⟨atEnd hfin, fun j => by rw [keepSets]; exact hsets j⟩, ?_⟩
      simp [obsNext, recsOf]
    · simp only at hres hg' hi'
      refine ⟨⟨good_suffix hg' hi', fun j => by rw [keepSets]; exact hsets j⟩, ?_⟩
      rcases hres with h | ⟨k', h⟩ <;> subst h <;> simp [obsNext, recsOf]
  cases op with
  | next => exact nextCase
  | owned => exact nextCase
  | set j n =>
    have hR := readSet_spec inp False (fuelOf m.r) m.r (m.getSet j) n _ hg hfuel (wf_set hwf)
    simp only [stepM, stepSet]
    rcases hx : readRecordSetExact (fuelOf m.r) m.r (m.getSet j) n with ⟨r', rs', res⟩
    rw [hx] at hR
    have norec : ∀ x ∈ recsOf (obsSet rs' res), x ∈ allRecs inp := by
      intro x hx'
      rcases res with (b | _ | _ | _)
      · cases b <;> simp [obsSet, recsOf] at hx'
      all_goals simp [obsSet, recsOf] at hx'
    have setsAfter : (∃ recs, viewAll rs'.buffer rs'.positions = some recs ∧
        ∀ x ∈ recs, x ∈ allRecs inp) →
        ∀ i, ∃ recs, viewAll ((({ m with r := r' } : MSt).putSet j rs').getSet i).buffer
          ((({ m with r := r' } : MSt).putSet j rs').getSet i).positions = some recs ∧
          ∀ x ∈ recs, x ∈ allRecs inp := by
      intro hnew i
      rw [MSt.getSet_putSet]
      split
      · exact hnew
      · rw [keepSets]; exact hsets i
    refine ⟨⟨?_, ?_⟩, norec⟩
    · rw [MSt.putSet_r]
      rcases hR with ⟨-, ys, its', hi, -, -, hl, -⟩ | ⟨-, -, hfin, -⟩ | ⟨ys, e, b, l, -, -, -, hfin, -⟩ |
        ⟨e, -, -, -, -, hfin⟩ | ⟨-, -, -, its', hg', -, hi'⟩
      · exact ⟨k + ys.length, by
          have := drop_eq_append hi
          simp only [List.length_map] at this
          rw [this]; exact hl.1⟩
      · exact atEnd hfin
      · exact atEnd hfin
      · exact atEnd hfin
      · exact good_suffix hg' hi'
    · apply setsAfter
      rcases hR with ⟨-, ys, its', hi, hv, -, -, -⟩ | ⟨-, -, -, hrs⟩ | ⟨ys, e, b, l, -, -, hp, -, -⟩ |
        ⟨e, -, -, -, hp, -⟩ | ⟨-, -, hrs, -⟩
      · exact ⟨_, hv, mem_allRecs_of_drop hi⟩
      · rcases hrs with h | h
        · simp only at h; rw [h]; exact hsets j
        · simp only at h; exact ⟨[], by rw [h]; rfl, fun x hx' => by cases hx'⟩
      · simp only at hp; exact ⟨[], by rw [hp]; rfl, fun x hx' => by cases hx'⟩
      · simp only at hp; exact ⟨[], by rw [hp]; rfl, fun x hx' => by cases hx'⟩
      · simp only at hrs; rw [hrs]; exact hsets j
  | dump j =>
    refine ⟨⟨⟨k, hg⟩, hsets⟩, ?_⟩
    obtain ⟨recs, hv, hall⟩ := hsets j
    simp only [stepM, obsDump, hv, recsOf]
    exact hall
  | pos => exact ⟨⟨⟨k, hg⟩, hsets⟩, by simp [stepM, recsOf]⟩
  | seekItem i =>
    have hinp := good_inp hg
    simp only [stepM, stepSeek, hinp]
    cases hi : (Spec.fastq inp)[i]? with
    | none => exact ⟨⟨⟨k, hg⟩, hsets⟩, by simp [recsOf]⟩
    | some it =>
      obtain ⟨hb, hdrop⟩ := fastq_drop inp i it hi
      have norec : ∀ x ∈ recsOf (obsSeek (seek m.r (itemPos it).1 (itemPos it).2).2),
          x ∈ allRecs inp := by
        intro x hx'
        rw [recsOf_obsSeek] at hx'
        cases hx'
      refine ⟨⟨?_, fun j => by rw [keepSets]; exact hsets j⟩, norec⟩
      rcases seek_cases inp False m.r _ hg (itemPos it).1 (itemPos it).2 hb with
        ⟨-, h2, -, -⟩ | ⟨-, -, h2 | h2⟩
      · exact ⟨i, by rw [hdrop]; exact h2⟩
      · exact ⟨k, h2⟩
      · exact ⟨(Spec.fastq inp).length, by rw [List.drop_length]; exact h2⟩

theorem genM_mkM (inp : List UInt8) (cap : Nat) (hcap : 3 ≤ cap) (pol : Pol) (hwf : PolWf1 pol)
    (script : List ReadEv) (chunk : Nat) (seekFails : List (Nat × IoKind)) :
    GenM inp (mkM inp cap pol script chunk seekFails) := by
  refine ⟨⟨0, good_mkReader_env inp False cap hcap pol hwf (fun h => h.elim) script
    (fun h => h.elim) chunk seekFails (fun h => h.elim)⟩, ?_⟩
  intro j
  refine ⟨[], ?_, fun x hx => by cases hx⟩
  rcases j with _ | _ | j <;> rfl

theorem run_genuine (inp : List UInt8) : ∀ (ops : List Op) (m : MSt), GenM inp m →
    (∀ op ∈ ops, op.wf = true) →
    ∀ o ∈ runM m ops, ∀ x ∈ recsOf o, x ∈ allRecs inp := by
  intro ops
  induction ops with
  | nil => intro m _ _ o ho; cases ho
  | cons op ops ih =>
    intro m hm hops o ho
    obtain ⟨h1, h2⟩ := step_genuine inp m hm op (hops op List.mem_cons_self)
    simp only [runM, List.mem_cons] at ho
    rcases ho with rfl | ho
    · exact h2
    · exact ih _ h1 (fun o' ho' => hops o' (List.mem_cons_of_mem _ ho')) o ho

/-- **C06.** Every record shown by any observation of any history (a record returned by
`next`, an owned record, the records of a dumped record set; seeks included) is a record of
`Spec.fastq inp` – for **every** read script (failing reads included), scripted seek failures,
and policies that answer more than the capacity passed or refuse. -/
theorem fastq_history_genuine (inp : List UInt8) (cap : Nat) (hcap : 3 ≤ cap) (pol : Pol)
    (hpol : PolWf pol) (script : List ReadEv) (chunk : Nat) (seekFails : List (Nat × IoKind))
    (ops : List Op) (hops : ∀ op ∈ ops, op.wf = true) :
    ∀ o ∈ runM (mkM inp cap pol script chunk seekFails) ops, ∀ x ∈ recsOf o, x ∈ allRecs inp :=
  run_genuine inp ops _ (genM_mkM inp cap hcap pol (PolWf.wf1 hpol) script chunk seekFails) hops

/-- the special case without failing seeks -/
theorem fastq_history_genuine_noseekfail (inp : List UInt8) (cap : Nat) (hcap : 3 ≤ cap) (pol : Pol)
    (hpol : PolWf pol) (script : List ReadEv) (chunk : Nat)
    (ops : List Op) (hops : ∀ op ∈ ops, op.wf = true) :
    ∀ o ∈ runM (mkM inp cap pol script chunk) ops, ∀ x ∈ recsOf o, x ∈ allRecs inp :=
  fastq_history_genuine inp cap hcap pol hpol script chunk [] ops hops

/-- totality and genuineness together, as for FASTA -/
theorem fastq_history_total_genuine (inp : List UInt8) (cap : Nat) (hcap : 3 ≤ cap) (pol : Pol)
    (hpol : PolWf pol) (script : List ReadEv) (chunk : Nat) (seekFails : List (Nat × IoKind))
    (ops : List Op) (hops : ∀ op ∈ ops, op.wf = true) :
    ∀ o ∈ runM (mkM inp cap pol script chunk seekFails) ops,
      o ≠ .panic ∧ o ≠ .fuel ∧ ∀ x ∈ recsOf o, x ∈ allRecs inp := by
  intro o ho
  have h1 := fastq_history_total inp cap (by omega) pol hpol script chunk seekFails ops o ho
  exact ⟨h1.1, h1.2, fastq_history_genuine inp cap hcap pol hpol script chunk seekFails ops hops o ho⟩

/-! ## failing read scripts: the histories that showed a fabricated record before the repair

Before `seek` completed a partly filled buffer, these two histories returned the record
`b / GG / II`, which is not a record of the input (input `@b\nGG\n+\nIIII\n`: S has no record,
only `UnequalLengths 2 4`).  With the repaired `seek` they report S's error. -/

/-- `@b\nGG\n+\nIIII\n` -/
def cutInp : List UInt8 := [64, 98, 10, 71, 71, 10, 43, 10, 73, 73, 73, 73, 10]

theorem cutInp_spec : Spec.fastq cutInp = [.err (.unequalLengths 2 4 1 (some [98])) 0 1] := by
  decide +kernel

/-- The first refill hands out 10 bytes and then fails (capacity 64): `next` reports the I/O
error and the reader stays `new` with a short buffer.  A seek to offset 0 is served from the
buffer – which is completed first – and the following `next` reports S's error. -/
theorem repaired_after_failed_init :
    runM (mkM cutInp 64 PolDesc.std.toPol [.data 10, .fail 7]) [.next, .seekItem 0, .next] =
      [.error (.io 7), .done,
       .error (.unequalLengths 2 4 { line := 1, id := some [98] })] := by
  decide +kernel

/-- `@a\nAC\n+\nII\n@b\nGG\n+\nIIII\n` -/
def cutInp2 : List UInt8 :=
  [64, 97, 10, 65, 67, 10, 43, 10, 73, 73, 10, 64, 98, 10, 71, 71, 10, 43, 10, 73, 73, 73, 73, 10]

/-- The same after a refill that fails inside `resume_incomplete_search` (capacity 12): the
reader is finished, a seek to the second item revives it, and `next` reports S's error. -/
theorem repaired_after_failed_refill :
    runM (mkM cutInp2 12 PolDesc.std.toPol [.data 12, .data 9, .fail 7])
        [.next, .next, .seekItem 1, .next] =
      [.record { head := [97], seq := [65, 67], qual := [73, 73] }, .error (.io 7), .done,
       .error (.unequalLengths 2 4 { line := 5, id := some [98] })] := by
  decide +kernel

end SeqIo.Fastq
