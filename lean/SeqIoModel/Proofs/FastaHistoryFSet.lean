import SeqIoModel.Proofs.FastaHistoryFOps
/-!
# Record set reads when refills may fail and the policy may refuse

The loop is `setLoop_spec` (FastaHistorySet) without any assumption on the script: the stored positions are the
records `k0, k0 + 1, …` of S.  A failed call leaves an empty set and a cursor that has not moved
backwards (`ReadSetOut`); so iterating over a set never shows anything but records of S (`SetGen`).
-/
open SeqIo SeqIo.FillProofs SeqIo.Spec

namespace SeqIo.Fasta.Hist

theorem LoopRd.inv {inp : List UInt8} {G : Prop} {r : Reader} {k npos : Nat}
    (h : LoopRd inp G r k npos) : KInv inp r k := by
  rcases h with ⟨hr, ⟨hst, he⟩ | ⟨hst, _⟩⟩ | ⟨hw, _, hst, hb, _⟩
  · exact KInv.positioned hr he hst
  · exact KInv.incomplete hr hst
  · exact KInv.finished hw hb hst

/-- the outcome of a record set read into `rs` when the cursor is `k0` (for a successful read:
before its first record): a filled set holds the contiguous segment `k0 … k0 + npos - 1` of S's
records and the cursor moves to `k0 + npos`; otherwise the set is unchanged or empty -/
def ReadSetOut (inp : List UInt8) (rs : RecordSet) (k0 : Nat) (r' : Reader) (rs' : RecordSet)
    (res : Res Bool) : Prop :=
  (res = .ok true ∧ rs'.buffer = r'.br.buf ∧ 1 ≤ rs'.npos ∧
    Acc inp (base r') r'.br.buf.length rs' k0 ∧ KInv inp r' (k0 + rs'.npos)) ∨
  ((res = .ok false ∨ ∃ e, res = .err e) ∧ (rs' = rs ∨ rs'.npos = 0) ∧ KInv inp r' k0)

theorem ReadSetOut.toW {inp : List UInt8} {rs rs' : RecordSet} {k0 : Nat} {r' : Reader}
    {res : Res Bool} (h : ReadSetOut inp rs k0 r' rs' res) : WRInv inp r' := by
  rcases h with ⟨_, _, _, _, h⟩ | ⟨_, _, h⟩ <;> exact h.toW

/-- **one `read_record_set[_exact]` call from any state reachable under failures and refusals, with
the cursor `k`**: no panic, no fuel exhaustion, and the cursor does not move backwards -/
theorem readSetK {inp : List UInt8} {r : Reader} {fuel k : Nat} (h : KInv inp r k)
    (hfuel : 2 * inp.length + 2 < fuel) (rs : RecordSet) (n : Option Nat) :
    ∃ r' rs' res k0, readRecordSetExact fuel r rs n = (r', rs', res) ∧ r'.pol.f = r.pol.f ∧
      k ≤ k0 ∧ ReadSetOut inp rs k0 r' rs' res := by
  have hfuel1 : inp.length < fuel := by omega
  have hloop : ∀ (r0 : Reader) (k0 : Nat), ReadyK inp r0 k0 → k ≤ k0 →
      ((r0.state = .positioned ∧ Eof inp r0) ∨ r0.state = .incomplete) →
      ∃ r' rs' res k0, Fault.setPost fuel n rs (r0, .ok true) = (r', rs', res) ∧
        r'.pol.f = r0.pol.f ∧ k ≤ k0 ∧ ReadSetOut inp rs k0 r' rs' res := by
    intro r0 k0 hr0 hk0 hst0
    have hinv : LoopInv inp False r0 { rs with npos := 0 } k0 true :=
      ⟨⟨Nat.zero_le _, fun i hi => absurd hi (Nat.not_lt_zero _)⟩,
        Or.inl ⟨hr0, hst0.imp_right fun h => ⟨h, nofun⟩⟩, fun _ _ => rfl, nofun⟩
    obtain ⟨r', rs', res, hres, hfr, -, hout⟩ :=
      setLoop_spec (n := n) hfuel1 fuel true r0 _ hinv (Nat.lt_of_le_of_lt (mu_le inp r0) hfuel)
    rw [Fault.setPost, hres]
    rcases hout with ⟨hr, hacc, hrd, hpos, -⟩ | ⟨h0, ⟨k', hk', hr', -, hst'⟩, hfail⟩
    · subst hr
      exact ⟨r', { rs' with buffer := r'.br.buf }, .ok true, k0, rfl, hfr.polf, hk0,
        Or.inl ⟨rfl, rfl, hpos, ⟨hacc.npos_le, hacc.recs⟩, hrd.inv⟩⟩
    · refine ⟨r', rs', res, k', ?_, hfr.polf, Nat.le_trans hk0 hk',
        Or.inr ⟨Or.inr ?_, Or.inr h0, KInv.incomplete hr' hst'⟩⟩
      · rcases hfail with ⟨rfl, -⟩ | ⟨e, rfl, -⟩ <;> rfl
      · rcases hfail with ⟨rfl, -⟩ | ⟨e, rfl, -⟩ <;> exact ⟨_, rfl⟩
  obtain ⟨r1, res1, hent, hpf1, ⟨rfl, hr1, hst1⟩ | ⟨hres, hinv⟩⟩ := enter_kinv h hfuel1 .positioned
  · obtain ⟨r', rs', res, k0, hl, hpf, hout⟩ := hloop r1 k hr1 (Nat.le_refl _) hst1
    exact ⟨r', rs', res, k0, by rw [readSet_enter, hent]; exact hl, hpf.trans hpf1, hout⟩
  · refine ⟨r1, rs, res1, k, ?_, hpf1, Nat.le_refl _, Or.inr ⟨hres, Or.inl rfl, hinv⟩⟩
    rw [readSet_enter, hent]
    rcases hres with rfl | ⟨e, rfl⟩ <;> rfl

def SetGen (inp : List UInt8) (rs : RecordSet) : Prop :=
  ∃ l, obsDump rs = .dump l ∧ ∀ v ∈ l, ∃ rc ∈ recsOf inp, v = view rc

theorem SetOk.gen {inp : List UInt8} {rs : RecordSet} {lo len : Nat} (h : SetOk inp rs lo len) :
    SetGen inp rs := by
  refine ⟨_, h, fun v hv => ?_⟩
  obtain ⟨rc, hrc, rfl⟩ := List.mem_map.mp hv
  exact ⟨rc, List.mem_of_mem_drop (List.mem_of_mem_take hrc), rfl⟩

theorem setGen_of_npos_zero {inp : List UInt8} {rs : RecordSet} (h : rs.npos = 0) : SetGen inp rs :=
  ⟨[], by simp [obsDump, h, allSome], fun v hv => by cases hv⟩

theorem ReadSetOut.setGen {inp : List UInt8} {rs rs' : RecordSet} {k0 : Nat} {r' : Reader}
    {res : Res Bool} (h : ReadSetOut inp rs k0 r' rs' res) (hrs : SetGen inp rs) :
    SetGen inp rs' := by
  rcases h with ⟨_, hbuf, _, hacc, hinv⟩ | ⟨_, rfl | h0, _⟩
  · exact (setOk_of_acc hinv.toW.win hacc hbuf).gen
  · exact hrs
  · exact setGen_of_npos_zero h0

end SeqIo.Fasta.Hist
