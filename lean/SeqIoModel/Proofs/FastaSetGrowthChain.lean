import SeqIoModel.Proofs.FastaOps
import SeqIoModel.Proofs.FastaStreamInv
/-!
# Policy requests of record set reads: the chain of requests (bookkeeping)

Purely structural facts, valid for every read script and for exact-count reads as well: whenever
`resume_incomplete_search` is entered with a full buffer, the log is extended by a `LogChain` from
the capacity on entry to the capacity on exit, every answer is adopted as the new capacity, and
`BufferLimit` is the result iff the last request was refused.  Once a plain read (no exact count)
has stored a record it never asks again.
-/
open SeqIo SeqIo.FillProofs SeqIo.Spec

namespace SeqIo.Fasta.Hist

theorem LC.growth {r r' : Reader} (h : LC r r') : Growth r r' [] :=
  Growth.same h.log (by rw [h.pol]) h.cap

/-- the reader with which the loop stores a record that `resume_incomplete_search` has found -/
theorem positioned_lc (r : Reader) :
    LC r (if r.state ≠ .finished then { r with state := .positioned } else r) ∧
      (if r.state ≠ .finished then { r with state := .positioned } else r).state ≠ .incomplete := by
  split
  · exact ⟨⟨rfl, rfl, rfl⟩, nofun⟩
  · rename_i hf
    exact ⟨.refl r, by rw [Decidable.not_not.mp hf]; nofun⟩

/-- log extended by the chain `new`; `BufferLimit` iff the chain ends with a refusal -/
def ChainOut {α : Type} (r r' : Reader) (res : Res α) (new : List (Nat × Option Nat)) : Prop :=
  Growth r r' new ∧
  ((res ≠ .err .bufferLimit ∧ ∀ e ∈ new, e.2 ≠ none) ∨
   (res = .err .bufferLimit ∧ ∃ pre c, new = pre ++ [(c, none)]))

theorem ChainOut.of_lc {α : Type} {r r' : Reader} {res : Res α} (h : LC r r')
    (hres : res ≠ .err .bufferLimit) : ChainOut r r' res [] :=
  ⟨h.growth, Or.inl ⟨hres, nofun⟩⟩

theorem ChainOut.prepend {α : Type} {r r1 r' : Reader} {res : Res α}
    {pre new : List (Nat × Option Nat)} (h1 : Growth r r1 pre) (hs : ∀ e ∈ pre, e.2 ≠ none)
    (h2 : ChainOut r1 r' res new) : ChainOut r r' res (pre ++ new) := by
  refine ⟨h1.trans hs h2.1, ?_⟩
  rcases h2.2 with ⟨hr, hn⟩ | ⟨hr, p', c, hp⟩
  · exact Or.inl ⟨hr, fun e he => (List.mem_append.mp he).elim (hs e) (hn e)⟩
  · exact Or.inr ⟨hr, pre ++ p', c, by rw [hp, List.append_assoc]⟩

theorem ChainOut.lc_right {α : Type} {r r' r'' : Reader} {res : Res α}
    {new : List (Nat × Option Nat)} (h : ChainOut r r' res new) (h2 : LC r' r'') :
    ChainOut r r'' res new :=
  ⟨⟨by rw [h2.log, h.1.log], by rw [h2.pol, h.1.polf], by rw [h2.cap]; exact h.1.chain⟩, h.2⟩

theorem ChainOut.iff {α : Type} {r r' : Reader} {res : Res α} {new : List (Nat × Option Nat)}
    (h : ChainOut r r' res new) :
    res = .err .bufferLimit ↔ ∃ pre c, new = pre ++ [(c, none)] := by
  rcases h.2 with ⟨hr, hn⟩ | ⟨hr, hp⟩
  · refine ⟨fun h' => absurd h' hr, ?_⟩
    rintro ⟨pre, c, hnew⟩
    exact absurd rfl (hn (c, none) (by rw [hnew]; simp))
  · exact ⟨fun _ => hp, fun _ => hr⟩

/-- what the bookkeeping needs: an answer exceeds the capacity passed -/
structure Pre (r : Reader) : Prop where
  pol : PolWfPos r.pol
  cap : 1 ≤ r.br.cap

/-- `r'`, `res` is the outcome of a call from `r` that has extended the log by a chain of requests
and has not shrunk the buffer (given `Pre r`, which then holds of `r'` as well) -/
def Chains {α : Type} (r r' : Reader) (res : Res α) : Prop :=
  Pre r → ∃ new, ChainOut r r' res new ∧ r.br.cap ≤ r'.br.cap

theorem Chains.of_lc {α : Type} {r r' : Reader} {res : Res α} (h : LC r r')
    (hres : res ≠ .err .bufferLimit) : Chains r r' res :=
  fun _ => ⟨[], .of_lc h hres, Nat.le_of_eq h.cap.symm⟩

theorem Chains.refl {α : Type} (r : Reader) {res : Res α} (hres : res ≠ .err .bufferLimit) :
    Chains r r res :=
  .of_lc (.refl r) hres

theorem Chains.trans {α β : Type} {r r1 r' : Reader} {res1 : Res α} {res : Res β}
    (h1 : Chains r r1 res1) (hne : res1 ≠ .err .bufferLimit) (h2 : Chains r1 r' res) :
    Chains r r' res := by
  intro hp
  obtain ⟨pre, hco1, hle1⟩ := h1 hp
  obtain ⟨new, hco2, hle2⟩ := h2 ⟨polWfPos_congr hco1.1.polf hp.pol, Nat.le_trans hp.cap hle1⟩
  have hs : ∀ e ∈ pre, e.2 ≠ none := hco1.2.elim (·.2) (fun h => absurd h.1 hne)
  exact ⟨pre ++ new, .prepend hco1.1 hs hco2, Nat.le_trans hle1 hle2⟩

theorem Chains.lc_left {α : Type} {r0 r r' : Reader} {res : Res α} (h1 : LC r0 r)
    (h : Chains r r' res) : Chains r0 r' res :=
  (Chains.of_lc (res := (.panic : Res Unit)) h1 nofun).trans nofun h

theorem Chains.res_congr {α β : Type} {r r' : Reader} {res : Res α} {res' : Res β}
    (h : Chains r r' res) (hiff : res' = .err .bufferLimit ↔ res = .err .bufferLimit) :
    Chains r r' res' := by
  intro hp
  obtain ⟨new, ⟨hg, hcase⟩, hle⟩ := h hp
  refine ⟨new, ⟨hg, ?_⟩, hle⟩
  rcases hcase with ⟨hr, hn⟩ | ⟨hr, hp⟩
  · exact Or.inl ⟨fun h' => hr (hiff.mp h'), hn⟩
  · exact Or.inr ⟨hiff.mpr hr, hp⟩

/-- shift or grow: the one place where the policy is asked -/
theorem step1_chains (mk : Bool) {r : Reader} (hfull : r.br.cap ≤ r.br.buf.length) :
    Chains r (step1 mk r).1 (step1 mk r).2 := by
  unfold step1
  split
  · intro hpre
    rcases grow_spec hpre.pol hfull hpre.cap with
      ⟨r1, n, _, hg, _, hlt, hcap, hlog, hpf, _⟩ | ⟨r1, _, hg, hbr, hlog, hpf⟩
    · rw [hg]
      exact ⟨[(r.br.cap, some n)], ⟨⟨hlog, hpf, rfl, hcap⟩, Or.inl ⟨nofun, by simp⟩⟩,
        by rw [hcap]; exact Nat.le_of_lt hlt⟩
    · rw [hg]
      exact ⟨[(r.br.cap, none)], ⟨⟨hlog, hpf, rfl, rfl, by rw [hbr]⟩, Or.inr ⟨rfl, [], _, rfl⟩⟩,
        by rw [hbr]; exact Nat.le_refl _⟩
  · cases hm : makeRoom r with
    | none => exact .refl r nofun
    | some r1 =>
      obtain ⟨_, _, _, rfl⟩ := makeRoom_some hm
      exact .of_lc ⟨rfl, rfl, rfl⟩ nofun

theorem resume_chains (mk : Bool) : ∀ (fu : Nat) (r : Reader), r.br.cap ≤ r.br.buf.length →
    Chains r (resume fu mk r).1 (resume fu mk r).2
  | 0, r, _ => .refl r nofun
  | f + 1, r, hfull => by
    have h1 := step1_chains mk hfull
    rw [resume_unfold]
    generalize step1 mk r = x at h1 ⊢
    obtain ⟨r1, res1⟩ := x
    cases res1 with
    | ok u =>
      simp only
      cases hfill : fillBuf r1.br with | mk br fres
      have h0 := LC.of_fill hfill
      cases fres with
      | error k => exact h1.trans nofun (.of_lc h0 nofun)
      | ok n =>
        simp only
        cases hsr : search { r1 with br := br } with
        | none => exact h1.trans nofun (.refl r1 nofun)
        | some q =>
          obtain ⟨r2, fnd⟩ := q
          obtain ⟨hlc2, _, hfull2⟩ := search_frame hsr
          cases fnd with
          | true => exact h1.trans nofun (.of_lc (h0.trans hlc2) nofun)
          | false =>
            exact h1.trans nofun ((resume_chains mk f r2 (hfull2 rfl)).lc_left (h0.trans hlc2))
    | err e => exact h1.res_congr (by simp)
    | panic => exact h1.res_congr (by simp)
    | fuel => exact h1.res_congr (by simp)

/-! ## the loop of `read_record_set_exact` -/

open SeqIo.Fasta.Fault in
theorem setLoop_chains (fu : Nat) (n : Option Nat) : ∀ (f : Nat) (isNew : Bool) (r : Reader)
    (rs : RecordSet), (r.state = .incomplete → r.br.cap ≤ r.br.buf.length) →
    Chains r (setLoop f fu n isNew r rs).1 (setLoop f fu n isNew r rs).2.2 := by
  intro f
  induction f with
  | zero => intro _ r _ _; exact .refl r nofun
  | succ f ih =>
    intro isNew r rs hinc
    have hstore : ∀ (r1 : Reader) (rs1 : RecordSet), r1.state ≠ .incomplete →
        Chains r1 (storeK f fu n isNew r1 rs1).1 (storeK f fu n isNew r1 rs1).2.2 := by
      intro r1 rs1 hni
      unfold storeK
      cases hss : storeStep n r1 rs1 with
      | none => exact .refl r1 nofun
      | some q =>
        obtain ⟨r2, rs2, b⟩ := q
        obtain ⟨hlc, hst⟩ := incrementRecord_lc (storeStep_some hss).1
        cases b with
        | true => exact .of_lc hlc nofun
        | false => exact (ih isNew r2 rs2 (fun h => absurd (hst ▸ h) hni)).lc_left hlc
    rw [setLoop_eq]
    split
    · exact .refl r nofun
    split
    · rename_i hi
      have h1 := resume_chains isNew fu r (hinc hi)
      generalize resume fu isNew r = x at h1 ⊢
      obtain ⟨r1, res⟩ := x
      cases res with
      | ok b =>
        cases b with
        | true =>
          obtain ⟨hlc, hni⟩ := positioned_lc r1
          exact h1.trans nofun ((hstore _ rs hni).lc_left hlc)
        | false => exact h1
      | err e => exact h1
      | panic => exact h1
      | fuel => exact h1
    · rename_i hi
      cases hsr : search r with
      | none => exact .refl r nofun
      | some q =>
        obtain ⟨r1, fnd⟩ := q
        obtain ⟨hlc, hni, hfull⟩ := search_frame hsr
        cases fnd with
        | true => exact (hstore r1 rs (hni rfl hi)).lc_left hlc
        | false =>
          simp only
          unfold afterMiss
          split
          · exact (ih isNew r1 rs (fun _ => hfull rfl)).lc_left hlc
          · split
            · split
              · exact (ih false r1 rs (fun _ => hfull rfl)).lc_left hlc
              · exact .of_lc hlc nofun
            · exact .of_lc hlc nofun

/-! ## with a record stored, a plain read asks nothing -/

open SeqIo.Fasta.Fault in
theorem storeK_nogrow_of {f fu : Nat} {isNew : Bool}
    (hloop : ∀ (r : Reader) (rs : RecordSet), 1 ≤ rs.npos → r.state ≠ .incomplete →
      LC r (setLoop f fu none isNew r rs).1)
    (r : Reader) (rs : RecordSet) (hni : r.state ≠ .incomplete) :
    LC r (storeK f fu none isNew r rs).1 := by
  unfold storeK
  cases hss : storeStep none r rs with
  | none => exact LC.refl r
  | some q =>
    obtain ⟨r2, rs2, b⟩ := q
    obtain ⟨hinc, rfl, rfl⟩ := storeStep_some hss
    obtain ⟨hlc, hst⟩ := incrementRecord_lc hinc
    exact hlc.trans (hloop r2 _ (Nat.le_add_left 1 rs.npos) (by rw [hst]; exact hni))

open SeqIo.Fasta.Fault in
theorem tail_nogrow (fu : Nat) : ∀ (f : Nat) (isNew : Bool) (r : Reader) (rs : RecordSet),
    1 ≤ rs.npos → r.state ≠ .incomplete → LC r (setLoop f fu none isNew r rs).1
  | 0, _, r, _, _, _ => LC.refl r
  | f + 1, isNew, r, rs, hpos, hni => by
    rw [setLoop_eq]
    split
    · exact LC.refl r
    cases hsr : search r with
    | none => exact LC.refl r
    | some q =>
      obtain ⟨r1, fnd⟩ := q
      obtain ⟨hlc, hni1, _⟩ := search_frame hsr
      cases fnd with
      | true => exact hlc.trans (storeK_nogrow_of (tail_nogrow fu f isNew) r1 rs (hni1 rfl hni))
      | false =>
        simp only
        unfold afterMiss
        rw [if_neg (by omega)]
        exact hlc

end SeqIo.Fasta.Hist
