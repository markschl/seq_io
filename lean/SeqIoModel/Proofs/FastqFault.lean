import SeqIoModel.Proofs.FastqHistorySeek
/-!
# C14 for the FASTQ reader: the first failure of the source surfaces in the call that hits it

Write the read script as `y ++ tail` with `NoFail y` and `tail` empty or starting with the FIRST
failing event `fail k`.  The machine is run side by side with a *clean* copy whose script is `y ++ T`
(`T` failure-free, as long as `tail`, so that the fuel is the same) and which has no scripted seek
failures.  Until a refill reaches the failing event or a seek of the source fails, the two do the
same (relation `Sim`); the operation that hits the failure returns `Err(Io(k))`.  The clean run is
accepted by the abstract reader A (`fastq_history_accepted`), and A never accepts an I/O error.
-/
open SeqIo SeqIo.FillProofs SeqIo.Spec SeqIo.Fastq.Hist

namespace SeqIo.Fastq.Fault

/-! ## the source -/

/-- `tail`: what is left of the read script behind its failure-free prefix; `T`: its replacement on
the clean machine; `sf`: the scripted seek failures of the failing machine -/
structure Par where
  k : IoKind
  tail : List ReadEv
  T : List ReadEv
  nofail : NoFail T
  len : T.length = tail.length
  live : tail = [] ∨ ∃ rest, tail = .fail k :: rest
  sf : List (Nat × IoKind)

def Par.Live (p : Par) : Prop := ∃ rest, p.tail = .fail p.k :: rest

/-- the clean copy of a buffered reader: another script, no seek failures -/
def bws (b : BufRd) (s : List ReadEv) : BufRd :=
  { b with src := { b.src with script := s, seekFails := [] } }

@[simp] theorem bws_buf (b : BufRd) (s : List ReadEv) : (bws b s).buf = b.buf := rfl
@[simp] theorem bws_cap (b : BufRd) (s : List ReadEv) : (bws b s).cap = b.cap := rfl
@[simp] theorem bws_script (b : BufRd) (s : List ReadEv) : (bws b s).src.script = s := rfl
@[simp] theorem bws_bws (b : BufRd) (s t : List ReadEv) : bws (bws b s) t = bws b t := rfl

def Sc (p : Par) (y : List ReadEv) (b : BufRd) : Prop :=
  b.src.script = y ++ p.tail ∧ b.src.seekFails = p.sf

theorem Sc.of_src {p : Par} {y : List ReadEv} {b b' : BufRd} (h : Sc p y b) (e : b'.src = b.src) :
    Sc p y b' := by
  unfold Sc; rw [e]; exact h

theorem readIntoBuf_sim (p : Par) (b : BufRd) (y : List ReadEv) (hy : NoFail y) (hs : Sc p y b)
    (hlt : b.buf.length < b.cap) :
    (∃ y', NoFail y' ∧ Sc p y' b.readIntoBuf.1 ∧
      (bws b (y ++ p.T)).readIntoBuf = (bws b.readIntoBuf.1 (y' ++ p.T), b.readIntoBuf.2) ∧
      ∀ kk, b.readIntoBuf.2 ≠ .fail kk) ∨
    (p.Live ∧ b.readIntoBuf.2 = .fail p.k) := by
  obtain ⟨hs, hsf⟩ := hs
  simp only [BufRd.readIntoBuf, bws_cap, bws_buf, Nat.not_le.mpr hlt, if_false]
  cases y with
  | nil =>
    rcases p.live with ht | ⟨rest, ht⟩
    · have hT : p.T = [] := List.eq_nil_of_length_eq_zero (by rw [p.len, ht]; rfl)
      rw [ht] at hs
      simp only [Src.read, hs, bws, hT, List.append_nil, Src.remaining]
      exact Or.inl ⟨[], noFail_nil, ⟨by rw [ht]; rfl, hsf⟩, rfl, nofun⟩
    · rw [ht] at hs
      simp only [Src.read, hs]
      exact Or.inr ⟨⟨rest, ht⟩, rfl⟩
  | cons e y' =>
    have hy' : NoFail y' := fun x hx => hy x (List.mem_cons_of_mem _ hx)
    cases e with
    | fail kk => exact absurd rfl (hy _ List.mem_cons_self kk)
    | intr =>
      simp only [Src.read, hs, bws, List.cons_append]
      exact Or.inl ⟨y', hy', ⟨rfl, hsf⟩, rfl, nofun⟩
    | data n =>
      simp only [Src.read, hs, bws, List.cons_append, Src.remaining]
      exact Or.inl ⟨y', hy', ⟨rfl, hsf⟩, rfl, nofun⟩

theorem fillBufAux_sim (p : Par) : ∀ (fuel : Nat) (b : BufRd) (y : List ReadEv) (num : Nat),
    NoFail y → Sc p y b →
    (∃ b' y' r, NoFail y' ∧ Sc p y' b' ∧ fillBufAux fuel b num = (b', .ok r) ∧
      fillBufAux fuel (bws b (y ++ p.T)) num = (bws b' (y' ++ p.T), .ok r)) ∨
    (p.Live ∧ ∃ b', fillBufAux fuel b num = (b', .error p.k)) := by
  intro fuel
  induction fuel with
  | zero =>
    intro b y num hy hs
    exact Or.inl ⟨b, y, num, hy, hs, rfl, rfl⟩
  | succ f ih =>
    intro b y num hy hs
    by_cases hlt : b.buf.length < b.cap
    · rw [fillBufAux_succ f b num hlt, fillBufAux_succ f (bws b _) num hlt]
      rcases readIntoBuf_sim p b y hy hs hlt with ⟨y', hy', hs', h2, hnf⟩ | ⟨hl, h1⟩
      · rw [h2]
        generalize b.readIntoBuf = x at hs' hnf ⊢
        obtain ⟨b', res⟩ := x
        cases res with
        | n k =>
          simp only
          split
          · exact Or.inl ⟨b', y', num, hy', hs', rfl, rfl⟩
          · exact ih b' y' (num + k) hy' hs'
        | intr => exact ih b' y' num hy' hs'
        | fail kk => exact absurd rfl (hnf kk)
      · generalize b.readIntoBuf = x at h1 ⊢
        obtain ⟨b', res⟩ := x
        cases h1
        exact Or.inr ⟨hl, b', rfl⟩
    · rw [fillBufAux_full _ b num hlt, fillBufAux_full _ (bws b _) num hlt]
      exact Or.inl ⟨b, y, num, hy, hs, rfl, rfl⟩

def rws (r : Reader) (s : List ReadEv) : Reader := { r with br := bws r.br s }

@[simp] theorem rws_br (r : Reader) (s : List ReadEv) : (rws r s).br = bws r.br s := rfl
@[simp] theorem rws_state (r : Reader) (s : List ReadEv) : (rws r s).state = r.state := rfl
@[simp] theorem rws_bp (r : Reader) (s : List ReadEv) : (rws r s).bp = r.bp := rfl
@[simp] theorem rws_ip (r : Reader) (s : List ReadEv) : (rws r s).incompletePos = r.incompletePos := rfl
@[simp] theorem rws_line (r : Reader) (s : List ReadEv) : (rws r s).line = r.line := rfl
@[simp] theorem rws_byte (r : Reader) (s : List ReadEv) : (rws r s).byte = r.byte := rfl
@[simp] theorem rws_pol (r : Reader) (s : List ReadEv) : (rws r s).pol = r.pol := rfl
@[simp] theorem rws_log (r : Reader) (s : List ReadEv) : (rws r s).log = r.log := rfl
@[simp] theorem rws_rws (r : Reader) (s t : List ReadEv) : rws (rws r s) t = rws r t := rfl

/-- a reader of the failing machine: `y` is the failure-free part of the script that is still
ahead, `g` the policy function -/
structure Fm (p : Par) (g : List Nat → Option Nat) (y : List ReadEv) (r : Reader) : Prop where
  nofail : NoFail y
  sc : Sc p y r.br
  polf : r.pol.f = g

theorem Fm.frame {p : Par} {g : List Nat → Option Nat} {y : List ReadEv} {r r' : Reader}
    (h : Fm p g y r) (hs : r'.br.src = r.br.src := by rfl) (hp : r'.pol.f = r.pol.f := by rfl) :
    Fm p g y r' :=
  ⟨h.nofail, h.sc.of_src hs, hp.trans h.polf⟩

theorem fill_sim {p : Par} {g : List Nat → Option Nat} {y : List ReadEv} {r : Reader}
    (hm : Fm p g y r) :
    (∃ b' y' n, Fm p g y' { r with br := b' } ∧ fillBuf r.br = (b', .ok n) ∧
      fillBuf (rws r (y ++ p.T)).br = (bws b' (y' ++ p.T), .ok n)) ∨
    (p.Live ∧ ∃ b', fillBuf r.br = (b', .error p.k)) := by
  have hfm : (bws r.br (y ++ p.T)).fillMeasure = r.br.fillMeasure := by
    simp only [BufRd.fillMeasure, bws, hm.sc.1, List.length_append, p.len, Src.remaining]
  unfold fillBuf
  rw [rws_br, hfm]
  rcases fillBufAux_sim p _ r.br y 0 hm.nofail hm.sc with ⟨b', y', n, hy', hs', h1, h2⟩ | h
  · exact Or.inl ⟨b', y', n, ⟨hy', hs', hm.polf⟩, h1, h2⟩
  · exact Or.inr h

/-! ## reader operations that do not read the source -/

theorem getErrorPos_mk (b : BufRd) (s : List ReadEv) (bp : BufPos) (ip : Option RecordPos) (l by' : Nat)
    (st : State) (pol : Pol) (lg : List (Nat × Option Nat)) (lo : Nat) (pid : Bool) :
    getErrorPos ⟨bws b s, bp, ip, l, by', st, pol, lg⟩ lo pid =
      getErrorPos ⟨b, bp, ip, l, by', st, pol, lg⟩ lo pid := rfl

theorem getErrorPos_rws (r : Reader) (s : List ReadEv) (lo : Nat) (pid : Bool) :
    getErrorPos (rws r s) lo pid = getErrorPos r lo pid := rfl

/-- `f` does on the clean copy what it does on the reader, and leaves the source and the policy
function alone -/
def Framed {α : Type} (f : Reader → Reader × α) : Prop :=
  ∀ r, (∀ s, f (rws r s) = (rws (f r).1 s, (f r).2)) ∧ (f r).1.br.src = r.br.src ∧
    (f r).1.pol.f = r.pol.f

/-- the reader in another environment (source, policy) -/
def env (r : Reader) (s : Src) (q : Pol) : Reader := { r with br := { r.br with src := s }, pol := q }

theorem env_buf (r : Reader) (s : Src) (q : Pol) : (env r s q).br.buf = r.br.buf := rfl
theorem env_bp (r : Reader) (s : Src) (q : Pol) : (env r s q).bp = r.bp := rfl
theorem env_ip (r : Reader) (s : Src) (q : Pol) : (env r s q).incompletePos = r.incompletePos := rfl
theorem env_line (r : Reader) (s : Src) (q : Pol) : (env r s q).line = r.line := rfl
theorem env_byte (r : Reader) (s : Src) (q : Pol) : (env r s q).byte = r.byte := rfl
theorem env_state (r : Reader) (s : Src) (q : Pol) : (env r s q).state = r.state := rfl
theorem env_log (r : Reader) (s : Src) (q : Pol) : (env r s q).log = r.log := rfl
/-- `{ env r s q with … }` for fields that are not part of the environment is `env { r with … } s q`
(stated for the constructor, which is what the update unfolds to) -/
theorem env_mk (r : Reader) (s : Src) (q : Pol) (bp : BufPos) (ip : Option RecordPos) (l b : Nat)
    (st : State) (lg : List (Nat × Option Nat)) :
    (⟨(env r s q).br, bp, ip, l, b, st, (env r s q).pol, lg⟩ : Reader) =
      env ⟨r.br, bp, ip, l, b, st, r.pol, lg⟩ s q := rfl
theorem getErrorPos_env (r : Reader) (s : Src) (q : Pol) : getErrorPos (env r s q) = getErrorPos r := rfl

def EnvFree {α : Type} (f : Reader → Reader × α) : Prop :=
  ∀ r s q, f (env r s q) = (env (f r).1 s q, (f r).2)

theorem EnvFree.framed {α : Type} {f : Reader → Reader × α} (h : EnvFree f) : Framed f := by
  intro r
  -- `env r r.br.src r.pol` is `r`
  have hs : (f r).1.br.src = r.br.src := congrArg (·.1.br.src) (h r r.br.src r.pol)
  have hp : (f r).1.pol = r.pol := congrArg (·.1.pol) (h r r.br.src r.pol)
  refine ⟨fun s => (h r { r.br.src with script := s, seekFails := [] } r.pol).trans ?_, hs,
    congrArg Pol.f hp⟩
  rw [rws, bws, env, hs, hp]

theorem validate_envFree : EnvFree validate := by
  intro r s q
  unfold validate
  simp only [env_buf, env_bp, env_ip, env_line, env_byte, env_log, env_mk, getErrorPos_env]
  repeat' split
  all_goals rfl

theorem validated_envFree : EnvFree validated := by
  intro r s q
  unfold validated
  rw [validate_envFree]
  rcases validate r with ⟨r', (_ | _ | _ | _)⟩ <;> rfl

theorem search_envFree : EnvFree search := by
  intro r s q
  unfold search
  simp only [env_buf, env_bp, env_ip, env_line, env_byte, env_state, env_log, env_mk,
    validated_envFree _ s q]
  repeat' split
  all_goals rfl

theorem searchIncomplete_envFree (ip : RecordPos) : EnvFree (searchIncomplete · ip) := by
  intro r s q
  cases ip <;>
  · simp only [searchIncomplete, RecordPos.ord, reduceCtorEq, if_true, if_false, Nat.le_refl, Nat.reduceLeDiff,
      env_buf, env_bp, env_ip, env_line, env_byte, env_state, env_log, env_mk]
    repeat
      generalize findLine _ _ = v
      rcases v with _ | _ | x <;>
        simp only [env_buf, env_bp, env_ip, env_line, env_byte, env_state, env_log, env_mk] <;> try rfl
    all_goals
      split
      · rfl
      · rw [validate_envFree]
        rcases validate _ with ⟨r', (_ | _ | _ | _)⟩ <;> rfl

theorem checkEnd_envFree (ip : RecordPos) : EnvFree (checkEnd · ip) := by
  intro r s q
  by_cases hq : ip = .qual
  · simp only [checkEnd, hq, if_true, env_buf, env_bp, env_ip, env_line, env_byte, env_state, env_log, env_mk,
      validate_envFree _ s q]
    rcases validate _ with ⟨r', (_ | _ | _ | _)⟩
    · simp only [env_buf, env_bp, getErrorPos_env]
      repeat' split
      all_goals rfl
    all_goals rfl
  · simp only [checkEnd, hq, if_false, env_buf, env_bp, getErrorPos_env]
    by_cases h0 : r.bp.pos0 ≤ r.br.buf.length
    · by_cases hall : (splitLF (r.br.buf.drop r.bp.pos0)).all (fun l => (trimCr l).isEmpty) = true
      · simp only [h0, hall, if_true]
      · simp only [h0, hall, if_true]
        cases getErrorPos r ip.ord (decide (ip.ord > RecordPos.head.ord)) <;> rfl
    · simp only [h0, if_false]

theorem reserve_bws (b : BufRd) (a : Nat) (s : List ReadEv) :
    (bws b s).reserve a = bws (b.reserve a) s := by
  unfold BufRd.reserve
  simp only [bws_cap, bws_buf]
  by_cases h1 : a ≤ b.cap - b.buf.length
  · simp only [h1, if_true]
  · simp only [h1, if_false]
    by_cases h2 : b.buf.isEmpty = true
    · simp only [h2, if_true]; rfl
    · simp only [h2]; rfl

theorem grow_framed : Framed grow := by
  intro r
  simp only [grow, Pol.growTo, rws_pol, rws_br, bws_cap, rws_log]
  cases r.pol.f (r.pol.hist ++ [r.br.cap]) with
  | none => exact ⟨fun _ => rfl, rfl, rfl⟩
  | some n =>
    simp only
    cases csub n r.br.cap with
    | none => exact ⟨fun _ => rfl, rfl, rfl⟩
    | some add =>
      refine ⟨fun s => ?_, reserve_src _ _, rfl⟩
      simp only [reserve_bws]
      rfl

/-! ## reader operations that read the source -/

/-- the kind a failing read reports: that of the first failing event of the script -/
def RB (p : Par) (k : IoKind) : Prop := p.Live ∧ k = p.k

/-- `x'` is what the clean machine gets where the failing machine gets `x`: the same, unless the
failing machine reports a failure of the source (of a kind `k` with `B k`) -/
def SimR (p : Par) (B : IoKind → Prop) {α : Type} (x x' : Reader × Res α) : Prop :=
  (∃ y, NoFail y ∧ Sc p y x.1.br ∧ x' = (rws x.1 (y ++ p.T), x.2)) ∨
  (∃ k, x.2 = .err (.io k) ∧ B k)

theorem SimR.mono {p : Par} {B B' : IoKind → Prop} {α : Type} {x x' : Reader × Res α}
    (h : SimR p B x x') (hB : ∀ k, B k → B' k) : SimR p B' x x' := by
  rcases h with h | ⟨k, hk, hb⟩
  · exact Or.inl h
  · exact Or.inr ⟨k, hk, hB k hb⟩

def IoErr {α : Type} (B : IoKind → Prop) (res : Res α) : Prop := ∃ k, res = .err (.io k) ∧ B k

/-- `SimR` for any type of results (`F`: the results that report a failure of the source), with the
policy function `g`, which no operation changes, carried along -/
def Sim (p : Par) (g : List Nat → Option Nat) {β : Type} (F : β → Prop) (x x' : Reader × β) : Prop :=
  (∃ r b y, Fm p g y r ∧ x = (r, b) ∧ x' = (rws r (y ++ p.T), b)) ∨
  (∃ r b, r.pol.f = g ∧ F b ∧ x = (r, b))

section
variable {p : Par} {g : List Nat → Option Nat} {y : List ReadEv} {r : Reader} {β : Type}
  {F : β → Prop}

/-- the readers and results are read off the goal; that they correspond is checked by evaluation -/
theorem Sim.same {x x' : Reader × β} (h : Fm p g y r) (hs : x.1.br.src = r.br.src := by rfl)
    (hp : x.1.pol.f = r.pol.f := by rfl) (hx : x' = (rws x.1 (y ++ p.T), x.2) := by rfl) :
    Sim p g F x x' :=
  Or.inl ⟨x.1, x.2, y, h.frame hs hp, rfl, hx⟩

theorem Sim.io {b : β} {x' : Reader × β} (hp : r.pol.f = g) (hf : F b) : Sim p g F (r, b) x' :=
  Or.inr ⟨r, b, hp, hf, rfl⟩

theorem Sim.polf {x x' : Reader × β} (h : Sim p g F x x') : x.1.pol.f = g := by
  rcases h with ⟨_, _, _, h, rfl, _⟩ | ⟨_, _, h, _, rfl⟩
  · exact h.polf
  · exact h

theorem Sim.simR {B : IoKind → Prop} {α : Type} {x x' : Reader × Res α}
    (h : Sim p g (IoErr B) x x') : SimR p B x x' := by
  rcases h with ⟨_, _, y, h, rfl, rfl⟩ | ⟨_, _, _, hf, rfl⟩
  · exact Or.inl ⟨y, h.nofail, h.sc, rfl⟩
  · exact Or.inr hf

theorem Framed.cases {α : Type} {f : Reader → Reader × α} (h : Framed f) (hm : Fm p g y r) :
    ∃ r1 b, Fm p g y r1 ∧ f r = (r1, b) ∧ f (rws r (y ++ p.T)) = (rws r1 (y ++ p.T), b) :=
  ⟨(f r).1, (f r).2, hm.frame (h r).2.1 (h r).2.2, rfl, (h r).1 _⟩

theorem Framed.sim {α : Type} {f : Reader → Reader × α} (h : Framed f) (hm : Fm p g y r)
    {F : α → Prop} : Sim p g F (f r) (f (rws r (y ++ p.T))) := by
  obtain ⟨r1, b, hm1, e, e'⟩ := h.cases hm
  rw [e, e']
  exact .same hm1

end

theorem incrementRecord_cases {p : Par} {g : List Nat → Option Nat} {y : List ReadEv} {r : Reader}
    (hm : Fm p g y r) :
    (incrementRecord r = none ∧ incrementRecord (rws r (y ++ p.T)) = none) ∨
    ∃ r1, Fm p g y r1 ∧ incrementRecord r = some r1 ∧
      incrementRecord (rws r (y ++ p.T)) = some (rws r1 (y ++ p.T)) := by
  unfold incrementRecord
  simp only [rws_bp]
  cases csub (r.bp.pos1 + 1) r.bp.pos0 with
  | none => exact Or.inl ⟨rfl, rfl⟩
  | some d => exact Or.inr ⟨_, hm.frame, rfl, rfl⟩

/-- first part of a loop iteration of `resume`: make space -/
def step1 (mk : Bool) (ip : RecordPos) (r : Reader) : Reader × Res Unit :=
  if !mk || r.bp.pos0 = 0 then
    match grow r with
    | (r, .ok ()) => (r, .ok ())
    | (r, .err e) => ({ r with state := .finished }, .err e)
    | x => x
  else match makeRoom r ip with
    | some r' => (r', .ok ())
    | none => (r, .panic)

theorem resume_unfold (f : Nat) (ip : RecordPos) (mk : Bool) (r : Reader) :
    resume (f + 1) ip mk r =
      if r.br.buf.length < r.br.cap then checkEnd { r with state := .finished } ip
      else
        match step1 mk ip r with
        | (r, .ok ()) =>
          match fillBuf r.br with
          | (br, .error k) => ({ r with br := br, state := .finished }, .err (.io k))
          | (br, .ok _) => resumeK f ip mk { r with br := br }
        | (r, .err e) => (r, .err e)
        | (r, .panic) => (r, .panic)
        | (r, .fuel) => (r, .fuel) :=
  resume_succ f ip mk r

theorem step1_grow (mk : Bool) (ip : RecordPos) (r : Reader)
    (h : (!mk || decide (r.bp.pos0 = 0)) = true) :
    step1 mk ip r = match grow r with
      | (r, .ok ()) => (r, .ok ())
      | (r, .err e) => ({ r with state := .finished }, .err e)
      | x => x := by
  unfold step1
  rw [if_pos h]

theorem step1_room (mk : Bool) (ip : RecordPos) (r : Reader)
    (h : ¬ (!mk || decide (r.bp.pos0 = 0)) = true) :
    step1 mk ip r = match makeRoom r ip with
      | some r' => (r', .ok ())
      | none => (r, .panic) := by
  unfold step1
  rw [if_neg h]

section
variable {p : Par} {g : List Nat → Option Nat} {y : List ReadEv} {r : Reader}

theorem makeRoom_cases (ip : RecordPos) (hm : Fm p g y r) :
    (makeRoom r ip = none ∧ makeRoom (rws r (y ++ p.T)) ip = none) ∨
    ∃ r1, Fm p g y r1 ∧ makeRoom r ip = some r1 ∧
      makeRoom (rws r (y ++ p.T)) ip = some (rws r1 (y ++ p.T)) := by
  simp only [makeRoom, rws_bp]
  split
  · exact Or.inr ⟨_, hm.frame, rfl, rfl⟩
  · exact Or.inl ⟨rfl, rfl⟩

theorem step1_cases (mk : Bool) (ip : RecordPos) (hm : Fm p g y r) :
    ∃ r1 b, Fm p g y r1 ∧ step1 mk ip r = (r1, b) ∧
      step1 mk ip (rws r (y ++ p.T)) = (rws r1 (y ++ p.T), b) := by
  by_cases h : (!mk || decide (r.bp.pos0 = 0)) = true
  · obtain ⟨r1, b, hm1, e, e'⟩ := grow_framed.cases hm
    rw [step1_grow mk ip r h, step1_grow mk ip (rws r _) h, e, e']
    rcases b with (⟨⟩ | _ | _ | _) <;> exact ⟨_, _, hm1.frame, rfl, rfl⟩
  · rw [step1_room mk ip r h, step1_room mk ip (rws r _) h]
    rcases makeRoom_cases ip hm with ⟨e, e'⟩ | ⟨r1, hm1, e, e'⟩ <;> rw [e, e']
    · exact ⟨_, _, hm, rfl, rfl⟩
    · exact ⟨_, _, hm1, rfl, rfl⟩

theorem resume_sim (p : Par) (g : List Nat → Option Nat) (mk : Bool) :
    ∀ (fu : Nat) (ip : RecordPos) (r : Reader) (y : List ReadEv), Fm p g y r →
    Sim p g (IoErr (RB p)) (resume fu ip mk r) (resume fu ip mk (rws r (y ++ p.T))) := by
  intro fu
  induction fu with
  | zero => intro ip r y hm; exact .same hm
  | succ f ih =>
    intro ip r y hm
    rw [resume_unfold, resume_unfold]
    by_cases hlt : r.br.buf.length < r.br.cap
    · rw [if_pos hlt, if_pos (show (rws r _).br.buf.length < (rws r _).br.cap from hlt)]
      exact (checkEnd_envFree ip).framed.sim (r := { r with state := .finished }) hm.frame
    · rw [if_neg hlt, if_neg (show ¬ (rws r _).br.buf.length < (rws r _).br.cap from hlt)]
      obtain ⟨r1, res1, hm1, e, e'⟩ := step1_cases mk ip hm
      rw [e, e']
      cases res1 with
      | ok u =>
        simp only
        rcases fill_sim hm1 with ⟨b', y', n, hm', h1, h2⟩ | ⟨hl, b', h1⟩
        · rw [h1, h2]
          show Sim _ _ _ (resumeK f ip mk { r1 with br := b' })
            (resumeK f ip mk (rws { r1 with br := b' } (y' ++ p.T)))
          obtain ⟨r2, res2, hm2, e, e'⟩ := (searchIncomplete_envFree ip).framed.cases hm'
          unfold resumeK
          rw [e, e']
          cases res2 with
          | ok o =>
            cases o with
            | none => exact .same hm2
            | some ip' => exact ih ip' r2 y' hm2
          | _ => exact .same hm2
        · rw [h1]
          exact .io hm1.polf ⟨p.k, rfl, hl, rfl⟩
      | _ => exact .same hm1

theorem init_sim (hm : Fm p g y r) :
    Sim p g (IoErr (RB p)) (init r) (init (rws r (y ++ p.T))) := by
  unfold init
  rcases fill_sim hm with ⟨b', y', n, hm', h1, h2⟩ | ⟨hl, b', h1⟩
  · rw [h1, h2]
    cases n <;> exact .same hm'
  · rw [h1]
    exact .io hm.polf ⟨p.k, rfl, hl, rfl⟩

/-- the part of `nextCont` behind the first `search` -/
def nextTail (fu : Nat) (x : Reader × Res Bool) : Reader × Res Bool :=
  match x with
  | (r, .ok _) =>
    match r.incompletePos with
    | some ip => resume fu ip true r
    | none => (r, .ok true)
  | x => x

theorem nextCont_eq (fu : Nat) (r : Reader) :
    nextCont fu r = nextTail fu (if r.incompletePos.isNone then search r else (r, .ok true)) := rfl

theorem nextTail_sim (fu : Nat) (hm : Fm p g y r) (res : Res Bool) :
    Sim p g (IoErr (RB p)) (nextTail fu (r, res)) (nextTail fu (rws r (y ++ p.T), res)) := by
  unfold nextTail
  cases res with
  | ok b =>
    simp only [rws_ip]
    cases r.incompletePos with
    | none => exact .same hm
    | some ip => exact resume_sim p g true fu ip r y hm
  | _ => exact .same hm

theorem nextCont_sim (fu : Nat) (hm : Fm p g y r) :
    Sim p g (IoErr (RB p)) (nextCont fu r) (nextCont fu (rws r (y ++ p.T))) := by
  rw [nextCont_eq, nextCont_eq]
  by_cases hip : r.incompletePos.isNone = true
  · rw [if_pos hip, if_pos (show (rws r _).incompletePos.isNone = true from hip)]
    obtain ⟨r1, res, hm1, e, e'⟩ := search_envFree.framed.cases hm
    rw [e, e']
    exact nextTail_sim fu hm1 res
  · rw [if_neg hip, if_neg (show ¬ (rws r _).incompletePos.isNone = true from hip)]
    exact nextTail_sim fu hm _

theorem setPre_sim (hm : Fm p g y r) :
    Sim p g (IoErr (RB p)) (setPre r) (setPre (rws r (y ++ p.T))) := by
  unfold setPre
  simp only [rws_state]
  cases r.state with
  | new =>
    simp only
    obtain ⟨r1, res, y1, hm1, e, e'⟩ | ⟨r1, res, hp, ⟨k, rfl, hb⟩, e⟩ := init_sim hm
    · rw [e, e']
      cases res with
      | ok b => cases b <;> exact .same hm1
      | _ => exact .same hm1
    · rw [e]
      exact .io hp ⟨k, rfl, hb⟩
  | positioned => exact .same hm
  | finished => exact .same hm
  | parsing =>
    rcases incrementRecord_cases hm with ⟨e, e'⟩ | ⟨r1, hm1, e, e'⟩ <;> rw [e, e']
    · exact .same hm
    · exact .same hm1

theorem next_sim' (fu : Nat) (hm : Fm p g y r) :
    Sim p g (IoErr (RB p)) (next fu r) (next fu (rws r (y ++ p.T))) := by
  rw [next_eq, next_eq]
  obtain ⟨r1, res, y1, hm1, e, e'⟩ | ⟨r1, res, hp, ⟨k, rfl, hb⟩, e⟩ := setPre_sim hm
  · rw [e, e']
    unfold nextPost
    cases res with
    | ok b =>
      cases b with
      | true => exact nextCont_sim fu hm1.frame
      | false => exact .same hm1
    | _ => exact .same hm1
  · rw [e]
    exact .io hp ⟨k, rfl, hb⟩

end

theorem next_sim (p : Par) (fu : Nat) (r : Reader) (y : List ReadEv) (hy : NoFail y)
    (hs : Sc p y r.br) :
    SimR p (RB p) (next fu r) (next fu (rws r (y ++ p.T))) :=
  (next_sim' fu ⟨hy, hs, rfl⟩).simR

/-! ### record set reads -/

def SetErr (p : Par) (q : RecordSet × Res Bool) : Prop := IoErr (RB p) q.2

theorem setLoop_eq (f fu : Nat) (n : Option Nat) (isNew : Bool) (r : Reader) (rs : RecordSet) :
    setLoop (f + 1) fu n isNew r rs =
      if r.state = .finished then (r, rs, .ok true)
      else
        match r.incompletePos with
        | some ip =>
          match resume fu ip isNew { r with incompletePos := none } with
          | (r, .ok true) => storeK f fu n isNew r rs
          | (r, .ok false) =>
            if rs.positions.isEmpty then (r, rs, .ok false) else (r, rs, .ok true)
          | (r, .err e) => (r, { rs with positions := [] }, .err e)
          | (r, .panic) => (r, rs, .panic)
          | (r, .fuel) => (r, rs, .fuel)
        | none =>
          match search r with
          | (r, .err e) => (r, { rs with positions := [] }, .err e)
          | (r, .panic) => (r, rs, .panic)
          | (r, .fuel) => (r, rs, .fuel)
          | (r, .ok false) => afterMiss f fu n isNew r rs
          | (r, .ok true) => storeK f fu n isNew r rs :=
  Fastq.setLoop_succ f fu n isNew r rs

section
variable {p : Par} {g : List Nat → Option Nat} {y : List ReadEv} {r : Reader}

theorem setLoop_sim (p : Par) (g : List Nat → Option Nat) (fu : Nat) (n : Option Nat) :
    ∀ (f : Nat) (isNew : Bool) (r : Reader) (rs : RecordSet) (y : List ReadEv), Fm p g y r →
    Sim p g (SetErr p) (setLoop f fu n isNew r rs) (setLoop f fu n isNew (rws r (y ++ p.T)) rs) := by
  intro f
  induction f with
  | zero => intro isNew r rs y hm; exact .same hm
  | succ f ih =>
    intro isNew r rs y hm
    have hstore : ∀ {r1 : Reader} {y1 : List ReadEv}, Fm p g y1 r1 →
        Sim p g (SetErr p) (storeK f fu n isNew r1 rs) (storeK f fu n isNew (rws r1 (y1 ++ p.T)) rs) := by
      intro r1 y1 hm1
      unfold storeK storeStep
      rcases incrementRecord_cases hm1 with ⟨e, e'⟩ | ⟨r2, hm2, e, e'⟩ <;> rw [e, e']
      · exact .same hm1
      · dsimp only
        rw [rws_bp]
        -- `b`: the requested number of records has been reached
        generalize decide (n = some _) = b
        cases b with
        | true => exact .same hm2
        | false => exact ih isNew r2 _ y1 hm2
    rw [setLoop_eq, setLoop_eq]
    by_cases hfin : r.state = .finished
    · rw [if_pos hfin, if_pos (show (rws r _).state = .finished from hfin)]
      exact .same hm
    · rw [if_neg hfin, if_neg (show ¬ (rws r _).state = .finished from hfin)]
      simp only [rws_ip]
      cases r.incompletePos with
      | some ip =>
        simp only
        rw [show ({ rws r (y ++ p.T) with incompletePos := none } : Reader) =
          rws { r with incompletePos := none } (y ++ p.T) from rfl]
        obtain ⟨r2, res, y', hm2, e, e'⟩ | ⟨r2, res, hp, ⟨k, rfl, hb⟩, e⟩ :=
          resume_sim p g isNew fu ip { r with incompletePos := none } y hm.frame
        · rw [e, e']
          cases res with
          | ok b =>
            cases b with
            | true => exact hstore hm2
            | false =>
              simp only
              split <;> exact .same hm2
          | _ => exact .same hm2
        · rw [e]
          exact .io hp ⟨k, rfl, hb⟩
      | none =>
        obtain ⟨r1, res, hm1, e, e'⟩ := search_envFree.framed.cases hm
        simp only
        rw [e, e']
        cases res with
        | ok b =>
          cases b with
          | true => exact hstore hm1
          | false =>
            show Sim _ _ _ (afterMiss f fu n isNew r1 rs) (afterMiss f fu n isNew (rws r1 (y ++ p.T)) rs)
            unfold afterMiss
            split
            · exact ih isNew r1 rs y hm1
            · cases n with
              | none => exact .same hm1
              | some n' =>
                simp only
                split
                · exact ih false r1 rs y hm1
                · exact .same hm1
        | _ => exact .same hm1

theorem readSet_eq (fu : Nat) (r : Reader) (rs : RecordSet) (n : Option Nat) :
    readRecordSetExact fu r rs n = setPost fu n rs (setPre r) :=
  Fastq.readSet_eq fu r rs n

theorem readSet_sim (fu : Nat) (rs : RecordSet) (n : Option Nat) (hm : Fm p g y r) :
    Sim p g (SetErr p) (readRecordSetExact fu r rs n)
      (readRecordSetExact fu (rws r (y ++ p.T)) rs n) := by
  rw [readSet_eq, readSet_eq]
  obtain ⟨r1, res, y1, hm1, e, e'⟩ | ⟨r1, res, hp, ⟨k, rfl, hb⟩, e⟩ := setPre_sim hm
  · rw [e, e']
    unfold setPost
    cases res with
    | ok b =>
      cases b with
      | true =>
        simp only
        obtain ⟨r2, q, y2, hm2, e, e'⟩ | ⟨r2, q, hp, ⟨k, hk, hb⟩, e⟩ :=
          setLoop_sim p g fu n fu true r1 { rs with positions := [] } y1 hm1
        · rw [e, e']
          obtain ⟨rs2, res2⟩ := q
          cases res2 with
          | ok b2 => cases b2 <;> exact .same hm2
          | _ => exact .same hm2
        · obtain ⟨rs2, res2⟩ := q
          cases hk
          rw [e]
          exact .io hp ⟨k, rfl, hb⟩
      | false => exact .same hm1
    | _ => exact .same hm1
  · rw [e]
    exact .io hp ⟨k, rfl, hb⟩

end

/-! ### `seek` -/

def SeekBad (b : BufRd) (k : IoKind) : Prop :=
  ∃ q, b.src.seekFails.find? (·.1 = b.src.seekCount) = some q ∧ q.2 = k

theorem bufSeek_sim (b : BufRd) (to : Nat) (s : List ReadEv) :
    (∃ b1 k, b.seek to = (b1, some k) ∧ SeekBad b k) ∨
    (∃ b1, b.seek to = (b1, none) ∧ (bws b s).seek to = (bws b1 s, none) ∧
      b1.src.script = b.src.script ∧ b1.src.seekFails = b.src.seekFails) := by
  rcases bufSeek_eq b to with ⟨q, hq, h⟩ | ⟨-, h⟩
  · exact Or.inl ⟨_, q.2, h, q, hq, rfl⟩
  · exact Or.inr ⟨_, h, by simp only [BufRd.seek, Src.seek, bws, List.find?_nil], rfl, rfl⟩

def seekFill (b : BufRd) : BufRd × Except IoKind Nat :=
  if b.buf.length < b.cap then fillBuf b else (b, .ok 0)

/-- in-buffer branch of `seek` -/
def seekIn (r : Reader) (l b : Nat) : Reader × Res Unit :=
  let pos : Int := (r.bp.pos0 : Int) + ((b : Int) - (r.byte : Int))
  match seekFill r.br with
  | (br, .error k) => ({ r with br := br }, .err (.io k))
  | (br, .ok _) =>
    ({ r with br := br, line := l, byte := b, incompletePos := none, state := .positioned,
              bp := { r.bp with pos0 := pos.toNat, pos1 := 0 } }, .ok ())

/-- the branch of `seek` that seeks in the source -/
def seekOut (r : Reader) (l b : Nat) : Reader × Res Unit :=
  match r.br.seek b with
  | (br, some k) => ({ r with br := br }, .err (.io k))
  | (br, none) =>
    let r := { r with br := br, line := l, byte := b, incompletePos := none,
                      bp := { r.bp with pos0 := 0, pos1 := 0 }, state := .finished }
    match fillBuf br with
    | (br, .error k) => ({ r with br := br }, .err (.io k))
    | (br, .ok _) => ({ r with br := br, state := .positioned }, .ok ())

def seekCond (r : Reader) (b : Nat) : Prop :=
  0 ≤ (r.bp.pos0 : Int) + ((b : Int) - (r.byte : Int)) ∧
    (r.bp.pos0 : Int) + ((b : Int) - (r.byte : Int)) < (r.br.buf.length : Int)

instance (r : Reader) (b : Nat) : Decidable (seekCond r b) := by unfold seekCond; infer_instance

theorem seek_eq (r : Reader) (l b : Nat) :
    seek r l b = if seekCond r b then seekIn r l b else seekOut r l b := by
  rfl

theorem seek_sim {p : Par} {g : List Nat → Option Nat} {y : List ReadEv} {r : Reader} (l b : Nat)
    (hm : Fm p g y r) :
    Sim p g (IoErr fun k => RB p k ∨ SeekBad r.br k) (seek r l b) (seek (rws r (y ++ p.T)) l b) := by
  rw [seek_eq, seek_eq]
  by_cases hin : seekCond r b
  · rw [if_pos hin, if_pos (show seekCond (rws r _) b from hin)]
    unfold seekIn seekFill
    by_cases hc : r.br.buf.length < r.br.cap
    · rw [if_pos hc, if_pos (show (rws r _).br.buf.length < (rws r _).br.cap from hc)]
      rcases fill_sim hm with ⟨b', y', n, hm', h1, h2⟩ | ⟨hl, b', h1⟩
      · rw [h1, h2]
        exact .same hm'
      · rw [h1]
        exact .io hm.polf ⟨p.k, rfl, Or.inl ⟨hl, rfl⟩⟩
    · rw [if_neg hc, if_neg (show ¬ (rws r _).br.buf.length < (rws r _).br.cap from hc)]
      exact .same hm
  · rw [if_neg hin, if_neg (show ¬ seekCond (rws r _) b from hin)]
    unfold seekOut
    simp only [rws_br]
    rcases bufSeek_sim r.br b (y ++ p.T) with ⟨b1, k, h1, hbad⟩ | ⟨b1, h1, h2, hsc, hsf⟩
    · rw [h1]
      exact .io hm.polf ⟨k, rfl, Or.inr hbad⟩
    · rw [h1, h2]
      have hm1 : Fm p g y { r with br := b1 } :=
        ⟨hm.nofail, ⟨hsc.trans hm.sc.1, hsf.trans hm.sc.2⟩, hm.polf⟩
      rcases fill_sim hm1 with ⟨b', y', n, hm', h3, h4⟩ | ⟨hl, b', h3⟩
      · simp only
        rw [show fillBuf b1 = _ from h3, show fillBuf (bws b1 (y ++ p.T)) = _ from h4]
        exact .same hm'
      · simp only
        rw [show fillBuf b1 = _ from h3]
        exact .io hm.polf ⟨p.k, rfl, Or.inl ⟨hl, rfl⟩⟩

/-! ## histories -/

/-- the failing machine `m` and the clean machine `m'` -/
def SimM (p : Par) (g : List Nat → Option Nat) (m m' : MSt) : Prop :=
  ∃ y, Fm p g y m.r ∧ m' = { m with r := rws m.r (y ++ p.T) }

theorem fuelOf_rws {p : Par} {r : Reader} {y : List ReadEv} (hs : Sc p y r.br) :
    fuelOf (rws r (y ++ p.T)) = fuelOf r := by
  simp only [fuelOf, rws, bws, hs.1, List.length_append, p.len]

theorem obsNext_rws (r : Reader) (s : List ReadEv) (res : Res Bool) :
    obsNext (rws r s) res = obsNext r res := by
  cases res with
  | ok b => cases b <;> rfl
  | _ => rfl

/-- the kinds the source may report in operation `op` from state `m`: that of the first failing
event of the read script, or (in a seek) that of the scripted failure of this seek -/
def FB (p : Par) (m : MSt) (op : Op) (k : IoKind) : Prop :=
  RB p k ∨ ((∃ i, op = .seekItem i) ∧
    ∃ q, p.sf.find? (·.1 = m.r.br.src.seekCount) = some q ∧ q.2 = k)

def StepSim (p : Par) (g : List Nat → Option Nat) (m : MSt) (op : Op) (x x' : MSt × ObsH) : Prop :=
  (x.2 = x'.2 ∧ SimM p g x.1 x'.1) ∨ (x.1.r.pol.f = g ∧ ∃ k, x.2 = .error (.io k) ∧ FB p m op k)

theorem putSet_rws (m : MSt) (r' : Reader) (j : Nat) (rs : RecordSet) :
    (({ m with r := r' } : MSt).putSet j rs) = { m.putSet j rs with r := r' } := by
  unfold MSt.putSet
  split <;> rfl

theorem step_sim (p : Par) (g : List Nat → Option Nat) (m m' : MSt) (h : SimM p g m m') (op : Op) :
    StepSim p g m op (stepM m op) (stepM m' op) := by
  obtain ⟨y, hm, rfl⟩ := h
  have hfu := fuelOf_rws hm.sc
  cases op with
  | next | owned =>
    simp only [stepM, stepNext, hfu]
    rcases next_sim' (fuelOf m.r) hm with ⟨r1, c, y', hm', h, h'⟩ | ⟨r1, c, hp, ⟨k, rfl, hb⟩, h⟩
    · rw [h, h']
      exact Or.inl ⟨(obsNext_rws _ _ _).symm, y', hm', rfl⟩
    · rw [h]
      exact Or.inr ⟨hp, k, rfl, Or.inl hb⟩
  | pos => exact Or.inl ⟨rfl, y, hm, rfl⟩
  | dump j => exact Or.inl ⟨congrArg obsDump (MSt.getSet_with_r m _ j).symm, y, hm, rfl⟩
  | seekItem i =>
    simp only [stepM, stepSeek]
    rw [show (rws m.r (y ++ p.T)).br.src.inp = m.r.br.src.inp from rfl]
    cases (Spec.fastq m.r.br.src.inp)[i]? with
    | none => exact Or.inl ⟨rfl, y, hm, rfl⟩
    | some it =>
      simp only
      rcases seek_sim (itemPos it).1 (itemPos it).2 hm with
        ⟨r1, c, y', hm', h, h'⟩ | ⟨r1, c, hp, ⟨k, rfl, hb⟩, h⟩
      · rw [h, h']
        exact Or.inl ⟨rfl, y', hm', rfl⟩
      · rw [h]
        refine Or.inr ⟨hp, k, rfl, ?_⟩
        rcases hb with hb | ⟨q, hq, hk⟩
        · exact Or.inl hb
        · rw [hm.sc.2] at hq
          exact Or.inr ⟨⟨i, rfl⟩, q, hq, hk⟩
  | set j n =>
    simp only [stepM, stepSet, hfu, MSt.getSet_with_r]
    rcases readSet_sim (fuelOf m.r) (m.getSet j) n hm with
      ⟨r1, ⟨rs1, c⟩, y', hm', h, h'⟩ | ⟨r1, ⟨rs1, c⟩, hp, ⟨k, hk, hb⟩, h⟩
    · rw [h, h']
      simp only [putSet_rws]
      exact Or.inl ⟨rfl, y', hm', rfl⟩
    · cases hk
      rw [h]
      simp only [putSet_rws]
      exact Or.inr ⟨hp, k, rfl, Or.inl hb⟩

/-! ### whole histories -/

def endM (m : MSt) : List Op → MSt
  | [] => m
  | op :: ops => endM (stepM m op).1 ops

/-- the two machines observe the same, or they agree up to an operation that observes a failure of
the source -/
theorem run_sim (p : Par) (g : List Nat → Option Nat) : ∀ (ops : List Op) (m m' : MSt), SimM p g m m' →
    (runM m ops = runM m' ops ∧ ∃ y, NoFail y ∧ Sc p y (endM m ops).r.br) ∨
    ∃ j k op, (runM m ops).take j = (runM m' ops).take j ∧ ops[j]? = some op ∧
      (runM m ops)[j]? = some (.error (.io k)) ∧ FB p (endM m (ops.take j)) op k := by
  intro ops
  induction ops with
  | nil =>
    intro m m' h
    obtain ⟨y, hm, _⟩ := h
    exact Or.inl ⟨rfl, y, hm.nofail, hm.sc⟩
  | cons op ops ih =>
    intro m m' h
    rcases step_sim p g m m' h op with ⟨hobs, hsim⟩ | ⟨-, k, hio, hb⟩
    · rcases ih _ _ hsim with ⟨heq, hend⟩ | ⟨j, k, op', htake, hj⟩
      · exact Or.inl ⟨(congr (congrArg List.cons hobs) heq :), hend⟩
      · exact Or.inr ⟨j + 1, k, op', by
          rw [runM, runM, List.take_succ_cons, List.take_succ_cons, hobs, htake], hj⟩
    · -- not `rfl`: that would first try to identify the two histories
      exact Or.inr ⟨0, k, op, List.take_zero.trans List.take_zero.symm, rfl, congrArg some hio, hb⟩

def isIoErr : ObsH → Bool
  | .error (.io _) => true
  | _ => false

theorem specErr_ne_io (e : FqErr) (k : IoKind) : specErr e ≠ .io k := by
  cases e <;> (intro h; cases h)

/-- A never accepts an I/O error -/
theorem accept_not_io (items : List FqItem) (a a' : AState) (op : Op) (o : ObsH)
    (h : acceptA items a op o = some a') : isIoErr o = false := by
  cases o with
  | error e =>
    cases e with
    | io k =>
      exfalso
      cases op with
      | next | owned =>
        simp only [acceptA, acceptNext] at h
        split at h
        · split at h
          · rename_i hh; cases hh
          · cases h
        · split at h
          · rename_i hh; cases hh
          · cases h
        · split at h
          · rename_i hh
            exact specErr_ne_io _ _ (ObsH.error.inj hh).symm
          · cases h
      | set j n =>
        simp only [acceptA, acceptSet] at h
        split at h
        · split at h
          · rename_i hh
            exact specErr_ne_io _ _ hh.1.symm
          · cases h
        · cases h
      | dump j => simp [acceptA, acceptDump] at h
      | pos => simp [acceptA, acceptPos] at h
      | seekItem i => simp [acceptA, acceptSeek] at h
    | _ => rfl
  | _ => rfl

theorem acceptsA_prefix (items : List FqItem) : ∀ (ops : List Op) (os : List ObsH) (a : AState),
    acceptsA items a ops os = true →
    (∀ o ∈ os, isIoErr o = false) ∧ ∀ j, acceptsA items a (ops.take j) (os.take j) = true := by
  intro ops
  induction ops with
  | nil =>
    intro os a h
    cases os with
    | nil => exact ⟨fun _ ho => (by cases ho), fun _ => by simp [acceptsA]⟩
    | cons o os => simp [acceptsA] at h
  | cons op ops ih =>
    intro os a h
    cases os with
    | nil => simp [acceptsA] at h
    | cons o os =>
      simp only [acceptsA] at h
      cases hacc : acceptA items a op o with
      | none => rw [hacc] at h; cases h
      | some a' =>
        rw [hacc] at h
        obtain ⟨h1, h2⟩ := ih os a' h
        refine ⟨fun o' ho' => ?_, fun j => ?_⟩
        · rcases List.mem_cons.mp ho' with rfl | ho'
          · exact accept_not_io items a a' op _ hacc
          · exact h1 o' ho'
        · cases j with
          | zero => rfl
          | succ j =>
            simp only [List.take_succ_cons, acceptsA, hacc]
            exact h2 j

/-! ## the theorems -/

theorem noFail_replicate_intr (n : Nat) : NoFail (List.replicate n ReadEv.intr) := by
  intro e he k
  rw [List.mem_replicate] at he
  rw [he.2]
  intro h; cases h

def parOf (k : IoKind) (tail : List ReadEv) (h : tail = [] ∨ ∃ rest, tail = .fail k :: rest)
    (sf : List (Nat × IoKind)) : Par :=
  { k := k, tail := tail, T := List.replicate tail.length .intr,
    nofail := noFail_replicate_intr _, len := List.length_replicate, live := h, sf := sf }

theorem exists_par (script : List ReadEv) (sf : List (Nat × IoKind)) :
    ∃ (p : Par) (y : List ReadEv), NoFail y ∧ script = y ++ p.tail ∧ p.sf = sf := by
  induction script with
  | nil => exact ⟨parOf 0 [] (Or.inl rfl) sf, [], noFail_nil, rfl, rfl⟩
  | cons e s ih =>
    obtain ⟨p, y, hy, hs, hsf⟩ := ih
    cases e with
    | fail k => exact ⟨parOf k (.fail k :: s) (Or.inr ⟨s, rfl⟩) sf, [], noFail_nil, rfl, rfl⟩
    | data n => exact ⟨p, .data n :: y, noFail_append (noFail_data n) hy, by rw [hs]; rfl, hsf⟩
    | intr => exact ⟨p, .intr :: y, noFail_append noFail_intr hy, by rw [hs]; rfl, hsf⟩

theorem exists_fm (r : Reader) : ∃ p y, Fm p r.pol.f y r := by
  obtain ⟨p, y, hy, hs, hsf⟩ := exists_par r.br.src.script r.br.src.seekFails
  exact ⟨p, y, hy, ⟨hs, hsf.symm⟩, rfl⟩

/-- read off the simulation: `Sim` carries the policy function along -/
theorem stepM_polf (m : MSt) (op : Op) : (stepM m op).1.r.pol.f = m.r.pol.f := by
  obtain ⟨p, y, hm⟩ := exists_fm m.r
  rcases step_sim p _ m _ ⟨y, hm, rfl⟩ op with ⟨-, _, h, -⟩ | ⟨h, -⟩
  · exact h.polf
  · exact h

theorem seek_polf (r : Reader) (l b : Nat) : (seek r l b).1.pol.f = r.pol.f := by
  obtain ⟨p, y, hm⟩ := exists_fm r
  exact (seek_sim l b hm).polf

/-- the core: if the clean machine's history is accepted, so is the failing machine's, without an
I/O error, and at the end the machine still corresponds to the clean one (in particular the first
failing event of the script has not been consumed); or it is accepted up to an operation `j` that
observes a failure of the source -/
theorem fault_core {p : Par} {g : List Nat → Option Nat} {m m' : MSt} (hsim : SimM p g m m')
    (items : List FqItem) (ops : List Op) (hacc : acceptsA items {} ops (runM m' ops) = true) :
    (acceptsA items {} ops (runM m ops) = true ∧ (∀ o ∈ runM m ops, isIoErr o = false) ∧
      ∃ y, NoFail y ∧ Sc p y (endM m ops).r.br) ∨
    ∃ j k op, acceptsA items {} (ops.take j) ((runM m ops).take j) = true ∧
      (∀ i o, i < j → (runM m ops)[i]? = some o → isIoErr o = false) ∧
      ops[j]? = some op ∧ (runM m ops)[j]? = some (.error (.io k)) ∧
      FB p (endM m (ops.take j)) op k := by
  obtain ⟨hnoio, hpre⟩ := acceptsA_prefix items ops _ {} hacc
  rcases run_sim p g ops m m' hsim with ⟨heq, hend⟩ | ⟨j, k, op, htake, hj⟩
  · rw [← heq] at hacc hnoio
    exact Or.inl ⟨hacc, hnoio, hend⟩
  · refine Or.inr ⟨j, k, op, htake ▸ hpre j, fun i o hi ho => ?_, hj⟩
    have h1 : ((runM m ops).take j)[i]? = some o := by
      rw [List.getElem?_take, if_pos hi]; exact ho
    rw [htake, List.getElem?_take, if_pos hi] at h1
    exact hnoio o (List.mem_of_getElem? h1)

/-- **C14 at reader level (FASTQ).** For every input, capacity ≥ 3, `PolGrows` policy, ARBITRARY
read script, chunk limit, ARBITRARY scripted seek failures and every well-formed history of
operations (single-record reads, record-set reads, dumps, position queries, seeks to items of S):

* (c) if no I/O error is observed the whole history is accepted by the abstract reader A;
* (a) the observations before the first `Err(Io(_))` are accepted by A – the records delivered
  before the failure are exactly the leading records of the input, S's own format error if it comes
  first, nothing invented, no premature end (interrupted reads, short reads, chunking invisible);
* (b) that first `Err(Io(k))` is returned by the very call that hit the failure and carries its
  kind: `k` is the kind of the FIRST failing event of the read script, or the operation is a seek
  and `k` is the kind scripted for this seek call of the source;
* (d) without failing events and seek failures no I/O error is ever observed. -/
theorem fastq_first_fault_surfaces (inp : List UInt8) (cap : Nat) (hcap : 3 ≤ cap) (pol : Pol)
    (hpol : PolGrows pol) (script : List ReadEv) (chunk : Nat) (seekFails : List (Nat × IoKind))
    (ops : List Op) (hops : ∀ op ∈ ops, op.wf = true) :
    ((∀ o ∈ runM (mkM inp cap pol script chunk seekFails) ops, isIoErr o = false) →
      acceptsA (Spec.fastq inp) {} ops (runM (mkM inp cap pol script chunk seekFails) ops) = true) ∧
    (∀ j o, (runM (mkM inp cap pol script chunk seekFails) ops)[j]? = some o → isIoErr o = true →
      (∀ i o', i < j → (runM (mkM inp cap pol script chunk seekFails) ops)[i]? = some o' →
        isIoErr o' = false) →
      acceptsA (Spec.fastq inp) {} (ops.take j)
        ((runM (mkM inp cap pol script chunk seekFails) ops).take j) = true ∧
      ∃ k, o = .error (.io k) ∧
        ((∃ used rest, script = used ++ .fail k :: rest ∧ NoFail used) ∨
         ((∃ i, ops[j]? = some (.seekItem i)) ∧
           ∃ q, seekFails.find?
             (·.1 = (endM (mkM inp cap pol script chunk seekFails) (ops.take j)).r.br.src.seekCount) =
               some q ∧ q.2 = k))) ∧
    (NoFail script → seekFails = [] →
      ∀ o ∈ runM (mkM inp cap pol script chunk seekFails) ops, isIoErr o = false) := by
  have hacc := fun s hs =>
    fastq_history_accepted inp cap hcap pol hpol s hs chunk ops hops
  have hd : NoFail script → seekFails = [] →
      ∀ o ∈ runM (mkM inp cap pol script chunk seekFails) ops, isIoErr o = false := by
    intro hs hsf
    subst hsf
    exact (acceptsA_prefix _ ops _ {} (hacc script hs)).1
  obtain ⟨p, y, hy, rfl, rfl⟩ := exists_par script seekFails
  have hsim : SimM p pol.f (mkM inp cap pol (y ++ p.tail) chunk p.sf)
      (mkM inp cap pol (y ++ p.T) chunk) := ⟨y, ⟨hy, ⟨rfl, rfl⟩, rfl⟩, rfl⟩
  rcases fault_core hsim _ ops (hacc _ (noFail_append hy p.nofail)) with
    ⟨hacc0, hnoio, -⟩ | ⟨j0, k, op, hacc0, hnoio, hop, h1, hfb⟩
  · refine ⟨fun _ => hacc0, fun j o ho hio _ => ?_, hd⟩
    rw [hnoio o (List.mem_of_getElem? ho)] at hio
    cases hio
  · refine ⟨fun hall => (nomatch hall _ (List.mem_of_getElem? h1)), fun j o ho hio hfirst => ?_, hd⟩
    obtain rfl : j = j0 := by
      rcases Nat.lt_trichotomy j j0 with h | h | h
      · rw [hnoio j o h ho] at hio
        cases hio
      · exact h
      · cases hfirst j0 _ h h1
    refine ⟨hacc0, k, Option.some.inj (ho.symm.trans h1), ?_⟩
    rcases hfb with ⟨⟨rest, hl⟩, hkk⟩ | ⟨⟨i, hi⟩, q, hq, hqk⟩
    · exact Or.inl ⟨y, rest, by rw [hkk, hl], hy⟩
    · exact Or.inr ⟨⟨i, by rw [hop, hi]⟩, q, hq, hqk⟩

/-- the same without seek failures, in the form: the first I/O error carries the kind of the
first failing event of the read script -/
theorem fastq_first_fault_surfaces_read (inp : List UInt8) (cap : Nat) (hcap : 3 ≤ cap) (pol : Pol)
    (hpol : PolGrows pol) (script : List ReadEv) (chunk : Nat)
    (ops : List Op) (hops : ∀ op ∈ ops, op.wf = true) :
    ((∀ o ∈ runM (mkM inp cap pol script chunk) ops, isIoErr o = false) →
      acceptsA (Spec.fastq inp) {} ops (runM (mkM inp cap pol script chunk) ops) = true) ∧
    (∀ j o, (runM (mkM inp cap pol script chunk) ops)[j]? = some o → isIoErr o = true →
      (∀ i o', i < j → (runM (mkM inp cap pol script chunk) ops)[i]? = some o' →
        isIoErr o' = false) →
      acceptsA (Spec.fastq inp) {} (ops.take j) ((runM (mkM inp cap pol script chunk) ops).take j) = true ∧
      ∃ used k rest, script = used ++ .fail k :: rest ∧ NoFail used ∧ o = .error (.io k)) ∧
    (NoFail script → ∀ o ∈ runM (mkM inp cap pol script chunk) ops, isIoErr o = false) := by
  obtain ⟨hc, hab, hd⟩ := fastq_first_fault_surfaces inp cap hcap pol hpol script chunk [] ops hops
  refine ⟨hc, ?_, fun hs => hd hs rfl⟩
  intro j o ho hio hfirst
  obtain ⟨hacc, k, hok, hkind⟩ := hab j o ho hio hfirst
  refine ⟨hacc, ?_⟩
  rcases hkind with ⟨used, rest, hs, hn⟩ | ⟨-, q, hq, -⟩
  · exact ⟨used, k, rest, hs, hn, hok⟩
  · cases hq

/-- a failure is never swallowed: as long as no I/O error has been observed, the first failing
event of the read script has not been consumed by any read -/
theorem fastq_fault_not_swallowed (inp : List UInt8) (cap : Nat) (hcap : 3 ≤ cap) (pol : Pol)
    (hpol : PolGrows pol) (y : List ReadEv) (hy : NoFail y) (k : IoKind) (rest : List ReadEv)
    (chunk : Nat) (seekFails : List (Nat × IoKind)) (ops : List Op) (hops : ∀ op ∈ ops, op.wf = true)
    (hall : ∀ o ∈ runM (mkM inp cap pol (y ++ .fail k :: rest) chunk seekFails) ops, isIoErr o = false) :
    ∃ y', NoFail y' ∧
      (endM (mkM inp cap pol (y ++ .fail k :: rest) chunk seekFails) ops).r.br.src.script =
        y' ++ .fail k :: rest := by
  have hsim : SimM (parOf k (.fail k :: rest) (Or.inr ⟨rest, rfl⟩) seekFails) pol.f
      (mkM inp cap pol (y ++ .fail k :: rest) chunk seekFails) (mkM inp cap pol (y ++ _) chunk) :=
    ⟨y, ⟨hy, ⟨rfl, rfl⟩, rfl⟩, rfl⟩
  rcases fault_core hsim _ ops (fastq_history_accepted inp cap hcap pol hpol _
    (noFail_append hy (noFail_replicate_intr _)) chunk ops hops) with
    ⟨-, -, y', hy', hs'⟩ | ⟨j0, k', op, -, -, -, h1, -⟩
  · exact ⟨y', hy', hs'.1⟩
  · cases hall _ (List.mem_of_getElem? h1)

end SeqIo.Fastq.Fault
