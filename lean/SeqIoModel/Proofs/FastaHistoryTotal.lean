import SeqIoModel.Proofs.FastaHistoryFSet
import SeqIoModel.Proofs.FastaHistory
/-!
# FASTA histories are total and show genuine records only (property C06)

`WHInv` – the weak reader invariant `WRInv` plus `SetGen` for every record set – holds initially for
every read script, list of failing seeks and `PolWfPos` policy, and every operation preserves it and
is observed without panic, without an exhausted loop and with records of S only (`stepF`).
-/
open SeqIo SeqIo.FillProofs SeqIo.Spec

namespace SeqIo.Fasta.Hist

structure WHInv (inp : List UInt8) (m : MSt) : Prop where
  rd : WRInv inp m.r
  sets : ∀ rs ∈ m.sets, SetGen inp rs

def Fine (inp : List UInt8) (o : ObsH) : Prop := o.crash = false ∧ Genuine (items inp) o

theorem WinR.fuel {inp : List UInt8} {r : Reader} (h : WinR inp r) :
    2 * inp.length + 2 < fuelOf r := by
  unfold fuelOf opFuel
  rw [h.b.inp_eq]
  omega

theorem NextOut.fine {inp : List UInt8} {j : Nat} {r' : Reader} {res : Res Bool}
    (h : NextOut inp j r' res) : Fine inp (obsNext r' res) ∧ Fine inp (obsOwned r' res) := by
  rcases h with ⟨hres, hg, _⟩ | ⟨hres, _⟩
  · subst hres
    obtain ⟨rc, hk, h1, h2⟩ := hg.obs
    rw [h1, h2]
    exact ⟨⟨rfl, rc, List.mem_of_getElem? hk, rfl, rfl⟩, ⟨rfl, rc, List.mem_of_getElem? hk, rfl, rfl⟩⟩
  · rcases hres with h | ⟨e, h⟩ <;> subst h <;> exact ⟨⟨rfl, trivial⟩, ⟨rfl, trivial⟩⟩

theorem stepM_set_cases (m : MSt) (j : Nat) (n : Option Nat) :
    stepM m (.set j n) = (m, .done) ∨
    ∃ rs, m.sets[j]? = some rs ∧ ∀ r' rs' res,
      readRecordSetExact (fuelOf m.r) m.r rs n = (r', rs', res) →
      stepM m (.set j n) = ({ r := r', sets := m.sets.set j rs' }, obsSet rs' res) := by
  by_cases hn : n = some 0
  · subst hn; exact Or.inl rfl
  cases hj : m.sets[j]? with
  | none => exact Or.inl (stepM_set_none hn hj)
  | some rs =>
    refine Or.inr ⟨rs, rfl, fun r' rs' res hread => ?_⟩
    rw [stepM_set_some hn hj, hread]

theorem stepM_dump_cases (m : MSt) (j : Nat) :
    stepM m (.dump j) = (m, .done) ∨
    ∃ rs, m.sets[j]? = some rs ∧ stepM m (.dump j) = (m, obsDump rs) := by
  cases hj : m.sets[j]? with
  | none => exact Or.inl (by simp only [stepM, hj])
  | some rs => exact Or.inr ⟨rs, rfl, by simp only [stepM, hj]⟩

theorem stepF {inp : List UInt8} {m : MSt} (h : WHInv inp m) (op : Op) :
    WHInv inp (stepM m op).1 ∧ (stepM m op).1.r.pol.f = m.r.pol.f ∧ Fine inp (stepM m op).2 := by
  obtain ⟨k, hk⟩ := h.rd.exists_k
  have hfuel := h.rd.win.fuel
  have hnext := nextK (fuel := fuelOf m.r) hk (by omega)
  cases op with
  | next =>
    obtain ⟨r', res, j, hnext, hpf, _, hout⟩ := hnext
    simp only [stepM, hnext]
    exact ⟨⟨hout.toW, h.sets⟩, hpf, hout.fine.1⟩
  | owned =>
    obtain ⟨r', res, j, hnext, hpf, _, hout⟩ := hnext
    simp only [stepM, hnext]
    exact ⟨⟨hout.toW, h.sets⟩, hpf, hout.fine.2⟩
  | set j n =>
    rcases stepM_set_cases m j n with e | ⟨rs, hj, e⟩
    · rw [e]
      exact ⟨h, rfl, rfl, trivial⟩
    · obtain ⟨r', rs', res, k0, hread, hpf, _, hout⟩ := readSetK hk hfuel rs n
      rw [e _ _ _ hread]
      refine ⟨⟨hout.toW, fun x hx => ?_⟩, hpf, ?_⟩
      · rcases List.mem_or_eq_of_mem_set hx with h' | h'
        · exact h.sets x h'
        · rw [h']; exact hout.setGen (h.sets rs (List.mem_of_getElem? hj))
      · rcases hout with ⟨hres, _⟩ | ⟨hres | ⟨e, hres⟩, _⟩ <;> subst hres <;> exact ⟨rfl, trivial⟩
  | dump j =>
    rcases stepM_dump_cases m j with e | ⟨rs, hj, e⟩
    · rw [e]
      exact ⟨h, rfl, rfl, trivial⟩
    · obtain ⟨l, hl, hg⟩ := h.sets rs (List.mem_of_getElem? hj)
      rw [e, hl]
      refine ⟨h, rfl, rfl, fun v hv => ?_⟩
      obtain ⟨rc, hmem, hrc⟩ := hg v hv
      exact ⟨rc, hmem, hrc.symm⟩
  | pos => exact ⟨h, rfl, rfl, trivial⟩
  | seekRec i =>
    have hinp := h.rd.win.b.inp_eq
    cases hi : (recsOf inp)[i]? with
    | none =>
      have hi' : (items m.r.br.src.inp).recs[i]? = none := by rw [hinp]; exact hi
      have e : stepM m (.seekRec i) = (m, .done) := by simp only [stepM, hi']
      rw [e]
      exact ⟨h, rfl, rfl, trivial⟩
    | some rc =>
      have hi' : (items m.r.br.src.inp).recs[i]? = some rc := by rw [hinp]; exact hi
      obtain ⟨r', res, hseek, hpf, hinv, hres⟩ := seekF h.rd i rc hi
      simp only [stepM, hi', hseek]
      refine ⟨⟨hinv, h.sets⟩, hpf, ?_⟩
      rcases hres with h' | ⟨k, h'⟩ <;> subst h' <;> exact ⟨rfl, trivial⟩

theorem runM_fine {inp : List UInt8} : ∀ (ops : List Op) (m : MSt), WHInv inp m →
    ∀ o ∈ runM m ops, Fine inp o := by
  intro ops
  induction ops with
  | nil => intro m _ o ho; cases ho
  | cons op ops ih =>
    intro m h o ho
    obtain ⟨hinv, _, hfine⟩ := stepF h op
    rw [runM] at ho
    rcases List.mem_cons.mp ho with rfl | ho
    · exact hfine
    · exact ih _ hinv o ho

/-- the initial state, with arbitrary read script and scripted seek failures -/
def mkMStF (inp : List UInt8) (cap : Nat) (pol : Pol) (script : List ReadEv) (chunk : Nat)
    (seekFails : List (Nat × IoKind)) : MSt :=
  { r := mkReader inp cap pol script chunk seekFails }

theorem newF_init (inp : List UInt8) (cap : Nat) (hcap : 3 ≤ cap) (pol : Pol) (hpol : PolWfPos pol)
    (script : List ReadEv) (chunk : Nat) (seekFails : List (Nat × IoKind)) :
    NewF inp (mkReader inp cap pol script chunk seekFails) := by
  refine ⟨⟨⟨rfl, Nat.le_refl _, Nat.zero_le _, ?_, hcap, Nat.zero_le _⟩, hpol⟩, ?_, ?_, rfl, rfl⟩
  · simp [baseB, mkReader]
  · simp [base, baseB, mkReader]
  · simp [SkipRel, base, baseB, mkReader]

theorem whinv_init (inp : List UInt8) (cap : Nat) (hcap : 3 ≤ cap) (pol : Pol) (hpol : PolWfPos pol)
    (script : List ReadEv) (chunk : Nat) (seekFails : List (Nat × IoKind)) :
    WHInv inp (mkMStF inp cap pol script chunk seekFails) := by
  refine ⟨WRInv.fresh (newF_init inp cap hcap pol hpol script chunk seekFails) rfl, ?_⟩
  intro rs hrs
  have : rs = {} := by
    have hm : (mkMStF inp cap pol script chunk seekFails).sets = [{}, {}, {}] := rfl
    rw [hm] at hrs
    simpa using hrs
  subst this
  exact setGen_of_npos_zero rfl

/-- **C06, no crash.** No history of calls makes the reader panic or run out of fuel – for every
read script (with failures), every scripted seek failure, every policy that answers more than the
capacity it is passed or refuses. -/
theorem fasta_history_total (inp : List UInt8) (cap : Nat) (hcap : 3 ≤ cap) (pol : Pol)
    (hpol : PolWfPos pol) (script : List ReadEv) (chunk : Nat) (seekFails : List (Nat × IoKind))
    (ops : List Op) :
    ∀ o ∈ runM (mkMStF inp cap pol script chunk seekFails) ops, o ≠ .panic ∧ o ≠ .fuel := by
  intro o ho
  have := (runM_fine ops _ (whinv_init inp cap hcap pol hpol script chunk seekFails) o ho).1
  constructor <;> intro h <;> rw [h] at this <;> cases this

/-- **C06, genuine records.** Every record shown by any observation of any history (a record
returned by `next`, an owned record, the records seen when iterating over a live record set) is a
record of `Spec.fasta inp` – also after failed refills, failed seeks and refusals of the policy. -/
theorem fasta_history_genuine (inp : List UInt8) (cap : Nat) (hcap : 3 ≤ cap) (pol : Pol)
    (hpol : PolWfPos pol) (script : List ReadEv) (chunk : Nat) (seekFails : List (Nat × IoKind))
    (ops : List Op) :
    ∀ o ∈ runM (mkMStF inp cap pol script chunk seekFails) ops, Genuine (items inp) o := by
  intro o ho
  exact (runM_fine ops _ (whinv_init inp cap hcap pol hpol script chunk seekFails) o ho).2

/-- the same for `PolWf` policies and the initial state of `fasta_history_accepted` -/
theorem fasta_history_total_genuine (inp : List UInt8) (cap : Nat) (hcap : 3 ≤ cap) (pol : Pol)
    (hpol : PolWf pol) (script : List ReadEv) (chunk : Nat) (ops : List Op) :
    ∀ o ∈ runM (mkMSt inp cap pol script chunk) ops,
      o ≠ .panic ∧ o ≠ .fuel ∧ Genuine (items inp) o := by
  intro o ho
  have h := fasta_history_total inp cap hcap pol (PolWf.wfPos hpol) script chunk [] ops o ho
  exact ⟨h.1, h.2, fasta_history_genuine inp cap hcap pol (PolWf.wfPos hpol) script chunk [] ops o ho⟩

end SeqIo.Fasta.Hist
