import SeqIoModel.Model.Stream
/-!
# `scan` and `slice` on plain byte strings

`scan` (the search for the end of a record) on an appended, shifted or resumed input, and line by
line (`line_induction`: a byte string is LF-free or `a ++ LF :: rest` with `a` LF-free); `slice`
inside a window of the input.  Nothing here mentions buffers or readers.
-/
open SeqIo

namespace SeqIo.Fasta

/-! ## line decomposition and line induction -/

theorem exists_line_split (l : List UInt8) :
    LF ∉ l ∨ ∃ a rest, LF ∉ a ∧ l = a ++ LF :: rest := by
  induction l with
  | nil => left; simp
  | cons b t ih =>
    by_cases hb : b = LF
    · right; exact ⟨[], t, by simp, by simp [hb]⟩
    · rcases ih with h | ⟨a, rest, ha, rfl⟩
      · left; simp only [List.mem_cons, not_or]; exact ⟨fun e => hb e.symm, h⟩
      · right
        refine ⟨b :: a, rest, ?_, by simp⟩
        simp only [List.mem_cons, not_or]; exact ⟨fun e => hb e.symm, ha⟩

theorem line_induction {P : List UInt8 → Prop}
    (h0 : ∀ a, LF ∉ a → P a)
    (h1 : ∀ a rest, LF ∉ a → P rest → P (a ++ LF :: rest)) : ∀ l, P l := by
  intro l
  generalize hn : l.length = n
  induction n using Nat.strongRecOn generalizing l with
  | _ n ih =>
    rcases exists_line_split l with h | ⟨a, rest, ha, rfl⟩
    · exact h0 l h
    · apply h1 a rest ha
      apply ih rest.length _ rest rfl
      subst hn
      simp only [List.length_append, List.length_cons]
      omega

/-! ## `scan` -/

theorem scan_sp_ge (b1 : List UInt8) (i : Nat) (acc : List Nat) :
    i ≤ (scan b1 i acc).2.1 ∧ (scan b1 i acc).2.1 ≤ i + b1.length := by
  fun_induction scan b1 i acc with
  | case1 i acc => exact ⟨Nat.le_refl _, Nat.le_refl _⟩
  | case2 i acc => exact ⟨Nat.le_refl _, Nat.le_add_right _ _⟩
  | case3 b i acc hb => exact ⟨Nat.le_add_right _ _, Nat.le_refl _⟩
  | case4 rest i acc => simp only [List.length_cons]; omega
  | case5 c rest i acc hc ih => simp only [List.length_cons] at ih ⊢; omega
  | case6 b c rest i acc hb ih => simp only [List.length_cons] at ih ⊢; omega

/-- the scan of a longer window: a record end that was found stays, otherwise the scan goes on
from where it stopped -/
theorem scan_append (w ext : List UInt8) (i : Nat) (acc : List Nat) :
    scan (w ++ ext) i acc =
      if (scan w i acc).1 then scan w i acc
      else scan (w.drop ((scan w i acc).2.1 - i) ++ ext) (scan w i acc).2.1 (scan w i acc).2.2 := by
  fun_induction scan w i acc with
  | case1 i acc => simp
  | case2 i acc => simp
  | case3 b i acc hb => cases ext <;> simp [scan, hb]
  | case4 rest i acc => simp [scan]
  | case5 c rest i acc hc ih =>
    have hge := (scan_sp_ge (c :: rest) (i + 1) (acc ++ [i])).1
    rw [List.cons_append, List.cons_append, scan.eq_3, if_pos rfl, if_neg hc, ← List.cons_append, ih]
    generalize scan (c :: rest) (i + 1) (acc ++ [i]) = x at hge
    have e : x.2.1 - i = x.2.1 - (i + 1) + 1 := by omega
    rw [e, List.drop_succ_cons]
  | case6 b c rest i acc hb ih =>
    have hge := (scan_sp_ge (c :: rest) (i + 1) acc).1
    rw [List.cons_append, List.cons_append, scan.eq_3, if_neg hb, ← List.cons_append, ih]
    generalize scan (c :: rest) (i + 1) acc = x at hge
    have e : x.2.1 - i = x.2.1 - (i + 1) + 1 := by omega
    rw [e, List.drop_succ_cons]

theorem scan_resume_found (b1 ext : List UInt8) (i : Nat) (acc : List Nat) (sp : Nat) (acc1 : List Nat)
    (h : scan b1 i acc = (true, sp, acc1)) :
    scan (b1 ++ ext) i acc = (true, sp, acc1) := by
  rw [scan_append, h]
  rfl

theorem scan_resume_notfound (b1 ext : List UInt8) (i : Nat) (acc : List Nat) (sp : Nat) (acc1 : List Nat)
    (h : scan b1 i acc = (false, sp, acc1)) :
    scan (b1 ++ ext) i acc = scan (b1.drop (sp - i) ++ ext) sp acc1 := by
  rw [scan_append, h]
  rfl

def shiftRes (d : Nat) (x : Bool × Nat × List Nat) : Bool × Nat × List Nat :=
  (x.1, x.2.1 + d, x.2.2.map (· + d))

theorem scan_shift (l : List UInt8) (i : Nat) (acc : List Nat) (d : Nat) :
    scan l (i + d) (acc.map (· + d)) = shiftRes d (scan l i acc) := by
  fun_induction scan l i acc with
  | case1 i acc => simp [scan, shiftRes]
  | case2 i acc => simp [scan, shiftRes]
  | case3 b i acc hb => simp [scan, shiftRes, hb]; omega
  | case4 rest i acc => simp [scan, shiftRes]; omega
  | case5 c rest i acc hc ih =>
    rw [scan.eq_3]
    simp only [hc, if_true, if_false]
    have e : i + d + 1 = i + 1 + d := by omega
    rw [e]
    simpa using ih
  | case6 b c rest i acc hb ih =>
    rw [scan.eq_3]
    simp only [hb, if_false]
    have e : i + d + 1 = i + 1 + d := by omega
    rw [e]
    simpa using ih

theorem scan_acc_append (l : List UInt8) (i : Nat) (acc : List Nat) (acc0 : List Nat) :
    scan l i (acc0 ++ acc) = ((scan l i acc).1, (scan l i acc).2.1, acc0 ++ (scan l i acc).2.2) := by
  fun_induction scan l i acc with
  | case1 i acc => simp [scan]
  | case2 i acc => simp [scan]
  | case3 b i acc hb => simp [scan, hb]
  | case4 rest i acc => simp [scan]
  | case5 c rest i acc hc ih =>
    rw [scan.eq_3]
    simp only [hc, if_true, if_false]
    rw [List.append_assoc]
    exact ih
  | case6 b c rest i acc hb ih =>
    rw [scan.eq_3]
    simp only [hb, if_false]
    exact ih

theorem scan_acc (l : List UInt8) (i : Nat) (acc : List Nat) :
    scan l i acc = ((scan l i []).1, (scan l i []).2.1, acc ++ (scan l i []).2.2) := by
  have := scan_acc_append l i [] acc
  simpa using this

theorem scan_new_bounds (l : List UInt8) (i : Nat) (acc : List Nat) :
    ∀ p ∈ (scan l i acc).2.2, p ∈ acc ∨ (i ≤ p ∧ p < (scan l i acc).2.1) := by
  fun_induction scan l i acc with
  | case1 i acc => intro p hp; exact Or.inl hp
  | case2 i acc => intro p hp; exact Or.inl hp
  | case3 b i acc hb => intro p hp; exact Or.inl hp
  | case4 rest i acc =>
    simp only [List.mem_append, List.mem_singleton]
    intro p hp
    rcases hp with hp | hp
    · exact Or.inl hp
    · right; omega
  | case5 c rest i acc hc ih =>
    intro p hp
    rcases ih p hp with h | h
    · simp only [List.mem_append, List.mem_singleton] at h
      rcases h with h | h
      · exact Or.inl h
      · right
        have hge := (scan_sp_ge (c :: rest) (i + 1) (acc ++ [i])).1
        omega
    · right; omega
  | case6 b c rest i acc hb ih =>
    intro p hp
    rcases ih p hp with h | h
    · exact Or.inl h
    · right; omega

theorem scan_found_lt (l : List UInt8) (i : Nat) (acc : List Nat) (h : (scan l i acc).1 = true) :
    i < (scan l i acc).2.1 := by
  fun_induction scan l i acc with
  | case1 i acc => simp at h
  | case2 i acc => simp at h
  | case3 b i acc hb => simp at h
  | case4 rest i acc => simp
  | case5 c rest i acc hc ih => have := ih h; omega
  | case6 b c rest i acc hb ih => have := ih h; omega

/-- an unsuccessful scan stops at the end, or on a final LF -/
theorem scan_notfound_sp (l : List UInt8) (i : Nat) (acc : List Nat) (h : (scan l i acc).1 = false) :
    i + l.length ≤ (scan l i acc).2.1 + 1 := by
  fun_induction scan l i acc with
  | case1 i acc => simp
  | case2 i acc => simp
  | case3 b i acc hb => simp
  | case4 rest i acc => simp at h
  | case5 c rest i acc hc ih => have := ih h; simp only [List.length_cons] at this ⊢; omega
  | case6 b c rest i acc hb ih => have := ih h; simp only [List.length_cons] at this ⊢; omega

theorem scan_skip_gt (l : List UInt8) (s : Nat) (h : l.head? = some GT) :
    scan (l.drop 1) (s + 1) [] = scan l s [] := by
  match l, h with
  | [b], h =>
    simp only [List.head?_cons, Option.some.injEq] at h
    subst h
    simp [scan, GT, LF]
  | b :: c :: rest, h =>
    simp only [List.head?_cons, Option.some.injEq] at h
    subst h
    rw [scan.eq_3]
    simp [GT, LF]

/-! ### line steps of `scan` -/

theorem scan_append_noLF (a rest : List UInt8) (h : LF ∉ a) (i : Nat) (acc : List Nat) :
    scan (a ++ rest) i acc = scan rest (i + a.length) acc := by
  induction a generalizing i with
  | nil => rfl
  | cons b t ih =>
    have hb : b ≠ LF := fun e => h (e ▸ List.mem_cons_self)
    rw [List.length_cons, Nat.add_comm t.length 1, ← Nat.add_assoc,
      ← ih (fun hm => h (List.mem_cons_of_mem _ hm)) (i + 1), List.cons_append]
    cases t ++ rest with
    | nil => rw [scan.eq_2, if_neg hb, scan.eq_1]
    | cons c l => rw [scan.eq_3, if_neg hb]

theorem scan_noLF (a : List UInt8) (h : LF ∉ a) (i : Nat) (acc : List Nat) :
    scan a i acc = (false, i + a.length, acc) := by
  have := scan_append_noLF a [] h i acc
  rwa [List.append_nil] at this

theorem scan_line_end (a : List UInt8) (h : LF ∉ a) (i : Nat) (acc : List Nat) :
    scan (a ++ [LF]) i acc = (false, i + a.length, acc) := by
  rw [scan_append_noLF a _ h, scan.eq_2, if_pos rfl]

theorem scan_line_gt (a : List UInt8) (h : LF ∉ a) (rest : List UInt8) (i : Nat) (acc : List Nat) :
    scan (a ++ LF :: GT :: rest) i acc = (true, i + a.length + 1, acc ++ [i + a.length]) := by
  rw [scan_append_noLF a _ h, scan.eq_3, if_pos rfl, if_pos rfl]

theorem scan_line_next (a : List UInt8) (h : LF ∉ a) (c : UInt8) (hc : c ≠ GT) (rest : List UInt8)
    (i : Nat) (acc : List Nat) :
    scan (a ++ LF :: c :: rest) i acc = scan (c :: rest) (i + a.length + 1) (acc ++ [i + a.length]) := by
  rw [scan_append_noLF a _ h, scan.eq_3, if_pos rfl, if_neg hc]

/-! ## shared definitions for the stream proof -/

/-- the final `seq_pos` of a record whose complete scan gave `x` -/
def finalPos (x : Bool × Nat × List Nat) : List Nat := if x.1 then x.2.2 else x.2.2 ++ [x.2.1]

def toObs (r : Spec.FaRec) : Obs := .record r.head r.seqLines r.line r.byte

/-- what S prescribes from the record starting at absolute offset `s` (line `ln`) onwards -/
def specFrom (inp : List UInt8) (s ln : Nat) : List Obs :=
  (Spec.faGroup (Spec.lines (inp.drop s)) s ln none).map toObs

/-! ## `slice` under windows -/

theorem slice_shift (inp buf ext : List UInt8) (b : Nat) (hb : b ≤ inp.length)
    (hw : inp.drop b = buf ++ ext) (a e : Nat) (he : e ≤ buf.length) :
    slice buf a e = slice inp (a + b) (e + b) := by
  have hlen : inp.length - b = buf.length + ext.length := by
    have := congrArg List.length hw
    simpa using this
  unfold slice
  by_cases hae : a ≤ e
  · have h1 : a ≤ e ∧ e ≤ buf.length := ⟨hae, he⟩
    have h2 : a + b ≤ e + b ∧ e + b ≤ inp.length := ⟨by omega, by omega⟩
    rw [if_pos h1, if_pos h2]
    congr 1
    have h3 : (inp.take (e + b)).drop (a + b) = ((inp.drop b).take e).drop a := by
      rw [List.take_drop, List.drop_drop, Nat.add_comm b e, Nat.add_comm b a]
    rw [h3, hw, List.take_append_of_le_length he]
  · have h1 : ¬ (a ≤ e ∧ e ≤ buf.length) := fun h => hae h.1
    have h2 : ¬ (a + b ≤ e + b ∧ e + b ≤ inp.length) := fun h => hae (by omega)
    rw [if_neg h1, if_neg h2]

end SeqIo.Fasta
