import SeqIoModel.Proofs.ParallelStep
/-!
# Termination of the `read_parallel_init` thread protocol (C08)

A potential function on protocol states that strictly decreases with every step of every thread.
Hence every schedule from a state `s` has at most `pot c s` steps (`sched_bounded`): the protocol
has no livelock, whatever the interleaving.
-/

namespace SeqIo.Par

set_option linter.unusedSimpArgs false

def msgW : Msg → Nat
  | .res _ _ => 2
  | .err => 1
  | .fin => 1

def rdPot (c : Cfg) (s : St) : Nat :=
  match s.rd with
  | .start => 8 * (c.N - s.filled) + 9
  | .recvEmpty => 8 * (c.N - s.filled) + 8
  | .fill _ => 8 * (c.N - s.filled) + 7
  | .sendErr => 5
  | .joinAll _ => 3
  | .sendFin => 2
  | .exited => 0

def mnPot (c : Cfg) (s : St) : Nat :=
  match s.mn with
  | .init i => 2 * (c.Q - i) + 6
  | .recycle _ => 4
  | .recvDone => 3
  | .dropping => 2
  | .joining => 1
  | .returned => 0

/-- The potential: reader and main program counters, 5/4/3 per job queued/working/sending and the
weights of the messages in the done channel (an error message weighs 1, so a consumer that keeps
calling `next()` after the error still pays for it: the message leaves the channel).
Where the constants come from: a job loses one unit per stage (5 → 4 → 3 → a result message of weight
2 → received); a fill creates a job of weight 5 and sends the reader from `fill` (7) back to
`recvEmpty` (8), which `8 * (N − filled)` has to pay for: −8 + 1 + 5 < 0; main's `recycle` (4) sits one
above `recvDone` (3) because the consumer alternates between them once per result, paid for by the
message received; `2 * (Q − i) + 6` drops by 2 for each data set created and stays above every later
value of the counter. -/
def pot (c : Cfg) (s : St) : Nat :=
  rdPot c s + mnPot c s + 5 * s.jobs.length + 4 * s.working.length + 3 * s.sending.length
    + (s.doneCh.map msgW).sum

theorem tr_decreases {c : Cfg} {s s' : St} (h : Tr c s s') : pot c s' < pot c s := by
  cases h <;> simp [pot, rdPot, mnPot, msgW, *] <;> omega

/-- C08: every step of every thread strictly decreases the potential. -/
theorem step_decreases (c : Cfg) (s s' : St) (t : Tid) (h : step c s t = some s') :
    pot c s' < pot c s :=
  tr_decreases (step_tr h)

/-- C08: every schedule (list of thread choices, each enabled) from `s` is at most `pot c s` long. -/
theorem sched_bounded (c : Cfg) (s s' : St) (ts : List Tid) (h : runSched c s ts = some s') :
    ts.length + pot c s' ≤ pot c s := by
  induction ts generalizing s with
  | nil => simp [runSched] at h; subst h; simp
  | cons t ts ih =>
    simp only [runSched] at h
    split at h
    · rename_i s1 hs1
      have := ih s1 h
      have := step_decreases c s s1 t hs1
      simp; omega
    · simp at h

theorem pot_init (c : Cfg) : pot c init = 8 * c.N + 2 * c.Q + 15 := by
  simp [pot, rdPot, mnPot, init]; omega

/-- every schedule from the initial state has at most `8 N + 2 Q + 15` steps -/
theorem sched_bounded_init (c : Cfg) (s : St) (ts : List Tid) (h : runSched c init ts = some s) :
    ts.length ≤ 8 * c.N + 2 * c.Q + 15 := by
  have := sched_bounded c init s ts h
  rw [pot_init] at this; omega

end SeqIo.Par

/-! Axioms used (expected: only `propext`, `Classical.choice`, `Quot.sound`). -/
#print axioms SeqIo.Par.sched_bounded
