import SeqIoModel.Model.Fasta
import SeqIoModel.Model.Utf8
/-!
# Record accessors of the FASTA reader that need no stream invariant

Four independent groups of facts about `Model/Fasta.lean` and `Model/Utf8.lean`, all by direct
computation on the position lists of a record: the sequence-line iterator `SeqLinesIt` behaves as a
double-ended queue over `items` (every front/back step is the step of a plain list, `step_spec`); the
line count, the line iterator, the owned and the raw sequence agree; a header is its id, a space and
its description; and UTF-8 validity splits at an ASCII byte, which carries the validity of a header
over to its parts.
-/
open SeqIo SeqIo.Fasta

namespace SeqIo.IterProofs

/-! ## The sequence-line iterator -/

def items (it : SeqLinesIt) : List (Nat × Nat) := it.a.zip it.b

theorem len_eq (it : SeqLinesIt) : it.len = (items it).length := by
  simp [SeqLinesIt.len, items]

theorem next_spec (it : SeqLinesIt) :
    it.next.2 = (items it).head? ∧ items it.next.1 = (items it).tail := by
  obtain ⟨a, b⟩ := it
  cases a <;> cases b <;> simp [SeqLinesIt.next, items]

theorem nextBack_spec (it : SeqLinesIt) :
    it.nextBack.2 = (items it).getLast? ∧ items it.nextBack.1 = (items it).dropLast := by
  obtain ⟨a, b⟩ := it
  have hl : (a.take (min a.length b.length)).length = (b.take (min a.length b.length)).length := by
    simp only [List.length_take]; omega
  simp only [SeqLinesIt.nextBack, items]
  -- zipping only looks at the common prefix, and the two trimmed lists end together
  rw [List.zip_eq_zip_take_min (l₁ := a)]
  generalize a.take _ = a1 at hl ⊢
  generalize b.take _ = b1 at hl ⊢
  rcases a1.eq_nil_or_concat with rfl | ⟨a', x, rfl⟩ <;>
    rcases b1.eq_nil_or_concat with rfl | ⟨b', y, rfl⟩ <;> simp at hl ⊢
  simp [List.zip_append hl]

inductive Step | front | back
deriving Repr, DecidableEq

def stepIt (it : SeqLinesIt) : Step → SeqLinesIt × Option (Nat × Nat)
  | .front => it.next
  | .back => it.nextBack

/-- deque semantics on a plain list -/
def stepList (l : List (Nat × Nat)) : Step → List (Nat × Nat) × Option (Nat × Nat)
  | .front => (l.tail, l.head?)
  | .back => (l.dropLast, l.getLast?)

def runIt (it : SeqLinesIt) : List Step → SeqLinesIt × List (Option (Nat × Nat))
  | [] => (it, [])
  | s :: ss =>
    let r := stepIt it s
    let q := runIt r.1 ss
    (q.1, r.2 :: q.2)

def runList (l : List (Nat × Nat)) : List Step → List (Nat × Nat) × List (Option (Nat × Nat))
  | [] => (l, [])
  | s :: ss =>
    let r := stepList l s
    let q := runList r.1 ss
    (q.1, r.2 :: q.2)

theorem step_spec (it : SeqLinesIt) (s : Step) :
    (stepIt it s).2 = (stepList (items it) s).2 ∧ items (stepIt it s).1 = (stepList (items it) s).1 := by
  cases s
  · exact next_spec it
  · exact nextBack_spec it

theorem run_spec (it : SeqLinesIt) (steps : List Step) :
    (runIt it steps).2 = (runList (items it) steps).2 ∧
      items (runIt it steps).1 = (runList (items it) steps).1 := by
  induction steps generalizing it with
  | nil => exact ⟨rfl, rfl⟩
  | cons s ss ih =>
    obtain ⟨h2, h3⟩ := step_spec it s
    simp only [runIt, runList]
    rw [← h3, ← h2, (ih _).1]
    exact ⟨rfl, (ih _).2⟩

/-- any sequence of front/back steps on the iterator of a record behaves like a
double-ended queue over the record's line offsets; the exact length reported after the steps is
the number of items still to come -/
theorem run_deque (bp : BufPos) (steps : List Step) :
    (runIt (SeqLinesIt.mk' bp) steps).2 = (runList (bp.seqPos.zip (bp.seqPos.drop 1)) steps).2 ∧
    items (runIt (SeqLinesIt.mk' bp) steps).1 = (runList (bp.seqPos.zip (bp.seqPos.drop 1)) steps).1 ∧
    (runIt (SeqLinesIt.mk' bp) steps).1.len =
      (runList (bp.seqPos.zip (bp.seqPos.drop 1)) steps).1.length := by
  obtain ⟨h2, h3⟩ := run_spec (SeqLinesIt.mk' bp) steps
  exact ⟨h2, h3, by rw [len_eq, h3]; rfl⟩

theorem stepList_none (l : List (Nat × Nat)) (s : Step) (h : (stepList l s).2 = none) : l = [] := by
  cases s <;> simpa [stepList] using h

/-- fused: once the end has been reported (from either side) every further step reports the end -/
theorem fused (bp : BufPos) (steps : List Step) (s s' : Step)
    (h : (stepIt (runIt (SeqLinesIt.mk' bp) steps).1 s).2 = none) :
    (stepIt (stepIt (runIt (SeqLinesIt.mk' bp) steps).1 s).1 s').2 = none := by
  generalize (runIt (SeqLinesIt.mk' bp) steps).1 = it at h ⊢
  obtain ⟨h2, h3⟩ := step_spec it s
  rw [h2] at h
  rw [(step_spec _ s').1, h3, stepList_none _ _ h]
  cases s <;> cases s' <;> rfl

theorem runList_front (l : List (Nat × Nat)) (k : Nat) (h : l.length ≤ k) :
    (runList l (List.replicate k Step.front)).2.filterMap id = l := by
  induction k generalizing l with
  | zero => simp_all [runList]
  | succ k ih =>
    cases l with
    | nil => simpa [List.replicate, runList, stepList] using ih [] (by simp)
    | cons x l =>
      simp at h
      simp [List.replicate, runList, stepList, ih l h]

theorem runList_back (l : List (Nat × Nat)) (k : Nat) (h : l.length ≤ k) :
    (runList l (List.replicate k Step.back)).2.filterMap id = l.reverse := by
  induction k generalizing l with
  | zero => simp_all [runList]
  | succ k ih =>
    rcases l.eq_nil_or_concat with rfl | ⟨l', x, rfl⟩
    · simpa [List.replicate, runList, stepList] using ih [] (by simp)
    · simp at h
      simp [List.replicate, runList, stepList, ih l' h]

/-- every item is yielded exactly once, complete consumption from the front -/
theorem exhaust_front (bp : BufPos) :
    ((runIt (SeqLinesIt.mk' bp) (List.replicate (bp.seqPos.length) Step.front)).2.filterMap id)
      = bp.seqPos.zip (bp.seqPos.drop 1) := by
  rw [(run_deque bp _).1]
  apply runList_front
  simp <;> omega

theorem exhaust_back (bp : BufPos) :
    ((runIt (SeqLinesIt.mk' bp) (List.replicate (bp.seqPos.length) Step.back)).2.filterMap id)
      = (bp.seqPos.zip (bp.seqPos.drop 1)).reverse := by
  rw [(run_deque bp _).1]
  apply runList_back
  simp <;> omega

/-! ## Views of a record agree -/

theorem numSeqLines_eq (buf : List UInt8) (bp : BufPos) :
    numSeqLines bp = (seqLines buf bp).length := by
  simp [numSeqLines, seqLines]

theorem numSeqLines_eq_items (bp : BufPos) : numSeqLines bp = (SeqLinesIt.mk' bp).len := by
  simp [numSeqLines, SeqLinesIt.len, SeqLinesIt.mk']

theorem ownedSeq_eq_flatten (buf : List UInt8) (bp : BufPos) (ls : List (List UInt8))
    (h : allSome (seqLines buf bp) = some ls) : ownedSeq buf bp = some ls.flatten := by
  simp [ownedSeq, h]

theorem allSome_length {α : Type} (l : List (Option α)) (ls : List α) (h : allSome l = some ls) :
    l.length = ls.length := by
  induction l generalizing ls with
  | nil => cases h; rfl
  | cons o l ih =>
    cases o with
    | none => cases h
    | some x =>
      obtain ⟨ls', h1, rfl⟩ := Option.map_eq_some_iff.mp h
      exact congrArg (· + 1) (ih ls' h1)

/-- with exactly one line the raw sequence is that line (so `full_seq` may borrow it) -/
theorem single_line_raw (buf : List UInt8) (bp : BufPos) (l : List UInt8)
    (h : allSome (seqLines buf bp) = some [l]) : seqRaw buf bp = some l := by
  have hlen := allSome_length _ _ h
  obtain ⟨start, sp⟩ := bp
  rcases sp with _ | ⟨s, _ | ⟨e, _ | _⟩⟩ <;> simp [seqLines] at hlen
  cases hs : slice buf (s + 1) e <;> simp [seqLines, allSome, hs] at h
  simp [seqRaw, hs, h]

/-! ## id / description split -/

theorem id_desc_join (h : List UInt8) :
    idBytes h ++ (match descBytes h with | some d => SP :: d | none => []) = h := by
  unfold idBytes descBytes
  induction h with
  | nil => rfl
  | cons b t ih =>
    rw [List.takeWhile_cons, List.dropWhile_cons]
    split
    · exact congrArg (b :: ·) ih
    · simp_all

theorem id_no_space (h : List UInt8) : SP ∉ idBytes h := by
  induction h with
  | nil => simp [idBytes]
  | cons b t ih =>
    by_cases hb : b = SP
    · simp [idBytes, hb]
    · have hb' : ¬ SP = b := fun e => hb e.symm
      simp only [idBytes] at ih ⊢
      simp only [List.takeWhile_cons, hb, ne_eq, not_false_eq_true, decide_true, if_true,
        List.mem_cons, hb', false_or]
      exact ih

theorem desc_none_iff (h : List UInt8) : descBytes h = none ↔ SP ∉ h := by
  induction h with
  | nil => simp [descBytes]
  | cons b t ih =>
    by_cases hb : b = SP
    · simp [descBytes, hb]
    · have hb' : ¬ SP = b := fun e => hb e.symm
      simp only [descBytes] at ih ⊢
      simp only [List.dropWhile_cons, hb, ne_eq, not_false_eq_true, decide_true, if_true,
        List.mem_cons, hb', false_or]
      exact ih

/-! ## UTF-8 validity splits at an ASCII byte -/

/-- Table 3-7 of the Unicode Standard ("Well-Formed UTF-8 Byte Sequences") read by lead byte: the
ranges of the bytes that must follow `b0`, one range per byte; `none` if `b0` cannot start a
character -/
def trail (b0 : UInt8) : Option (List (UInt8 × UInt8)) :=
  if b0 < 0x80 then some []
  else if 0xC2 ≤ b0 && b0 ≤ 0xDF then some [(0x80, 0xBF)]
  else if b0 = 0xE0 then some [(0xA0, 0xBF), (0x80, 0xBF)]
  else if (0xE1 ≤ b0 && b0 ≤ 0xEC) || b0 = 0xEE || b0 = 0xEF then some [(0x80, 0xBF), (0x80, 0xBF)]
  else if b0 = 0xED then some [(0x80, 0x9F), (0x80, 0xBF)]
  else if b0 = 0xF0 then some [(0x90, 0xBF), (0x80, 0xBF), (0x80, 0xBF)]
  else if 0xF1 ≤ b0 && b0 ≤ 0xF3 then some [(0x80, 0xBF), (0x80, 0xBF), (0x80, 0xBF)]
  else if b0 = 0xF4 then some [(0x80, 0x8F), (0x80, 0xBF), (0x80, 0xBF)]
  else none

/-- `bs` starts with one byte in each of the ranges `rs`, and `v` accepts what comes after them -/
def after (v : List UInt8 → Bool) : List (UInt8 × UInt8) → List UInt8 → Bool
  | [], bs => v bs
  | _ :: _, [] => false
  | r :: rs, x :: bs => (r.1 ≤ x && x ≤ r.2) && after v rs bs

/-- no byte after the lead byte is ASCII -/
theorem trail_lo (b0 : UInt8) : (trail b0).all (·.all (0x80 ≤ ·.1)) := by
  unfold trail
  simp only [apply_ite (Option.all _), Option.all_some, Option.all_none, List.all_cons, List.all_nil,
    UInt8.reduceLE, decide_true, Bool.and_true, ite_self]

theorem any_ite {α : Type} {c : Prop} [Decidable c] {p : α → Bool} {x y : Option α} {t e : Bool}
    (ht : t = x.any p) (he : e = y.any p) : (if c then t else e) = (if c then x else y).any p := by
  rw [apply_ite (Option.any p), ht, he]

/-- one character at a time, all lead bytes alike -/
theorem validUtf8_cons (b0 : UInt8) (rest : List UInt8) :
    validUtf8 (b0 :: rest) = (trail b0).any (after validUtf8 · rest) := by
  rw [validUtf8.eq_def]
  unfold trail
  repeat' refine any_ite ?_ ?_
  all_goals rcases rest with _ | ⟨_, _ | ⟨_, _ | _⟩⟩ <;>
    simp only [Option.any, after, isCont, Bool.and_assoc, Bool.and_false]

/-- an ASCII byte cannot stand in for one of the bytes `rs` asks for, so it is passed on to `v` -/
theorem after_append_ascii {v : List UInt8 → Bool} {w : Bool} {c : UInt8} (hc : c < 0x80)
    (b : List UInt8) {rs : List (UInt8 × UInt8)} (hrs : rs.all (0x80 ≤ ·.1)) (bs : List UInt8)
    (hv : ∀ s, s.length ≤ bs.length → v (s ++ c :: b) = (v s && w)) :
    after v rs (bs ++ c :: b) = (after v rs bs && w) := by
  induction rs generalizing bs with
  | nil => exact hv bs (Nat.le_refl _)
  | cons r rs ih =>
    rw [List.all_cons, Bool.and_eq_true, decide_eq_true_eq] at hrs
    cases bs with
    | nil =>
      have : ¬ r.1 ≤ c := UInt8.not_le.mpr (UInt8.lt_of_lt_of_le hc hrs.1)
      simp only [List.nil_append, after, this, decide_false, Bool.false_and]
    | cons x bs =>
      simp only [List.cons_append, after, Bool.and_assoc]
      rw [ih hrs.2 bs fun s hs => hv s (Nat.le_succ_of_le hs)]

theorem validUtf8_append_ascii (a b : List UInt8) (c : UInt8) (hc : c < 0x80) :
    validUtf8 (a ++ c :: b) = (validUtf8 a && validUtf8 b) := by
  cases a with
  | nil => rw [List.nil_append, validUtf8_cons, trail, if_pos hc]; rfl
  | cons b0 rest =>
    have hlo := trail_lo b0
    rw [List.cons_append, validUtf8_cons, validUtf8_cons]
    cases h : trail b0 with
    | none => rfl
    | some rs =>
      rw [h] at hlo
      exact after_append_ascii hc b hlo rest fun s _ => validUtf8_append_ascii s b c hc
termination_by a.length
decreasing_by simp only [List.length_cons]; omega

theorem validUtf8_id_desc (h : List UInt8) :
    validUtf8 h = (validUtf8 (idBytes h) &&
      (match descBytes h with | some d => validUtf8 d | none => true)) := by
  have hj := id_desc_join h
  cases hd : descBytes h with
  | none =>
    rw [hd] at hj
    simp at hj
    simp [hj]
  | some d =>
    rw [hd] at hj
    simp only at hj ⊢
    conv => lhs; rw [← hj]
    exact validUtf8_append_ascii _ _ SP (by decide)

end SeqIo.IterProofs
