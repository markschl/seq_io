import SeqIoModel.Proofs.FastaStream
import SeqIoModel.Model.History
/-!
# The records of S by index

`Pt inp k s ln`: the `k`-th record of S starts at absolute offset `s` on line `ln`, and S's
records from `k` on are what the scan from `s` finds.  Every record index has such a point
(`pt_all`), which is what makes seeking to a record position work.
-/
open SeqIo SeqIo.FillProofs SeqIo.Spec

namespace SeqIo.Fasta.Hist

def recsOf (inp : List UInt8) : List FaRec := (items inp).recs

theorem specObs_items (inp : List UInt8) :
    specObs inp = match (items inp).err with
      | some e => [.error e]
      | none => (recsOf inp).map toObs := by
  simp only [specObs, items, recsOf]
  cases hf : Spec.fasta inp <;> rfl

theorem items_err_recs (inp : List UInt8) (h : (items inp).err ≠ none) : recsOf inp = [] := by
  simp only [items, recsOf] at *
  cases hf : Spec.fasta inp <;> simp_all

structure Pt (inp : List UInt8) (k s ln : Nat) : Prop where
  gt : (inp.drop s).head? = some GT
  spec : ((recsOf inp).drop k).map toObs = specFrom inp s ln

theorem toObs_inj {a : FaRec} {H : List UInt8} {SL : List (List UInt8)} {ln s : Nat}
    (h : toObs a = Obs.record H SL ln s) : a.head = H ∧ a.seqLines = SL ∧ a.line = ln ∧ a.byte = s := by
  unfold toObs at h
  injection h with h1 h2 h3 h4
  exact ⟨h1, h2, h3, h4⟩

theorem pt_step {inp : List UInt8} {k s ln : Nat} (h : Pt inp k s ln) :
    ∃ rc, (recsOf inp)[k]? = some rc ∧ rc.byte = s ∧ rc.line = ln ∧
      head inp ⟨s, finalPos (scan (inp.drop s) s [])⟩ = some rc.head ∧
      allSome (seqLines inp ⟨s, finalPos (scan (inp.drop s) s [])⟩) = some rc.seqLines ∧
      ((scan (inp.drop s) s []).1 = true →
        Pt inp (k + 1) (scan (inp.drop s) s []).2.1 (ln + (finalPos (scan (inp.drop s) s [])).length)) ∧
      ((scan (inp.drop s) s []).1 = false → (recsOf inp).length = k + 1) := by
  obtain ⟨H, SL, hH, hSL, hspec, hnext⟩ := rec_spec inp s ln h.gt
  have hsp := h.spec
  rw [hspec] at hsp
  cases hd : (recsOf inp).drop k with
  | nil => rw [hd] at hsp; simp at hsp
  | cons rc tl =>
    rw [hd] at hsp
    simp only [List.map_cons, List.cons.injEq] at hsp
    obtain ⟨ho, htl⟩ := hsp
    obtain ⟨h1, h2, h3, h4⟩ := toObs_inj ho
    have hk : (recsOf inp)[k]? = some rc := by
      have := List.getElem?_drop (xs := recsOf inp) (i := k) (j := 0)
      rw [hd] at this
      simpa using this.symm
    have hd1 : (recsOf inp).drop (k + 1) = tl := by
      have : ((recsOf inp).drop k).drop 1 = tl := by rw [hd]; rfl
      rw [List.drop_drop] at this
      exact this
    refine ⟨rc, hk, h4, h3, by rw [hH, h1], by rw [hSL, h2], ?_, ?_⟩
    · intro hf
      refine ⟨hnext hf, ?_⟩
      rw [hd1, htl, if_pos hf]
    · intro hf
      have : ¬ ((scan (inp.drop s) s []).1 = true) := by rw [hf]; simp
      rw [if_neg this] at htl
      have htl' : tl = [] := by simpa using htl
      have hlt : k < (recsOf inp).length := (List.getElem?_eq_some_iff.mp hk).1
      have hle : (recsOf inp).length ≤ k + 1 := by
        rw [htl'] at hd1
        exact List.drop_eq_nil_iff.mp hd1
      omega

theorem Pt.lt {inp : List UInt8} {k s ln : Nat} (h : Pt inp k s ln) : k < (recsOf inp).length := by
  obtain ⟨rc, hk, _⟩ := pt_step h
  exact (List.getElem?_eq_some_iff.mp hk).1

/-! ## where S starts -/

theorem map_toObs_ne_error (l : List FaRec) (e : Err) : l.map toObs ≠ [Obs.error e] := by
  intro h
  cases l with
  | nil => cases h
  | cons a tl =>
    simp only [List.map_cons, List.cons.injEq] at h
    have := h.1
    unfold toObs at this
    cases this

theorem items_of_skip (inp : List UInt8) (s ln : Nat) (c : UInt8) (l : List UInt8)
    (ls : List (List UInt8))
    (hskip : skipBlank (lines inp) 0 1 = (lines (inp.drop s), s, ln))
    (hl : lines (inp.drop s) = l :: ls) (hc : l.head? = some c)
    (hhead : (inp.drop s).head? = some c) :
    (c = GT → (items inp).err = none ∧ Pt inp 0 s ln) ∧
    (c ≠ GT → recsOf inp = [] ∧ (items inp).err = some (.invalidStart ln c)) := by
  have hso := specObs_of_skip inp s ln c l ls hskip hl hc
  rw [specObs_items] at hso
  cases he : (items inp).err with
  | none =>
    rw [he] at hso
    simp only at hso
    constructor
    · intro hgt
      rw [if_pos hgt] at hso
      refine ⟨rfl, ?_, ?_⟩
      · rw [← hgt]; exact hhead
      · simpa using hso
    · intro hgt
      rw [if_neg hgt] at hso
      exact absurd hso (map_toObs_ne_error _ _)
  | some e =>
    rw [he] at hso
    simp only at hso
    constructor
    · intro hgt
      rw [if_pos hgt] at hso
      unfold specFrom at hso
      exact absurd hso.symm (map_toObs_ne_error _ _)
    · intro hgt
      rw [if_neg hgt] at hso
      simp only [List.cons.injEq, and_true] at hso
      injection hso with hso
      refine ⟨items_err_recs inp (by rw [he]; simp), by rw [hso]⟩

theorem items_of_skip_nil (inp : List UInt8) (h : (skipBlank (lines inp) 0 1).1 = []) :
    recsOf inp = [] ∧ (items inp).err = none := by
  have hso := specObs_of_skip_nil inp h
  rw [specObs_items] at hso
  cases he : (items inp).err with
  | none =>
    rw [he] at hso
    simp only at hso
    exact ⟨by simpa using hso, rfl⟩
  | some e =>
    rw [he] at hso
    cases hso

theorem pt_zero (inp : List UInt8) (hne : recsOf inp ≠ []) : ∃ s ln, Pt inp 0 s ln := by
  have hbs := blank_spec inp [] 0 0 0 0
  generalize hsb : scanBlank (splitLF inp) 0 0 0 = sb at hbs
  cases sb with
  | inl x =>
    obtain ⟨ln', pos', c⟩ := x
    simp only [Nat.sub_zero, List.append_nil, Nat.zero_add] at hbs
    obtain ⟨_, _, hskip, hhead, l, ls, hl, hc⟩ := hbs
    obtain ⟨h1, h2⟩ := items_of_skip inp pos' ln' c l ls hskip hl hc hhead
    by_cases hgt : c = GT
    · exact ⟨pos', ln', (h1 hgt).2⟩
    · exact absurd (h2 hgt).1 hne
  | inr x =>
    obtain ⟨ln', pos', ll⟩ := x
    simp only [List.append_nil, Nat.zero_add] at hbs
    obtain ⟨_, _, _, _, hsm, _, hskip⟩ := hbs
    have : (skipBlank (lines inp) 0 1).1 = [] := by
      rw [hskip]
      exact skipBlank_small _ hsm _ _
    exact absurd (items_of_skip_nil inp this).1 hne

theorem pt_all (inp : List UInt8) : ∀ (i : Nat) (rc : FaRec), (recsOf inp)[i]? = some rc →
    Pt inp i rc.byte rc.line := by
  intro i
  induction i with
  | zero =>
    intro rc hrc
    have hne : recsOf inp ≠ [] := by
      intro h; rw [h] at hrc; cases hrc
    obtain ⟨s, ln, hp⟩ := pt_zero inp hne
    obtain ⟨rc', hk, hb, hl, _⟩ := pt_step hp
    rw [hrc] at hk
    cases hk
    rw [hb, hl]; exact hp
  | succ i ih =>
    intro rc hrc
    have hlt : i + 1 < (recsOf inp).length := (List.getElem?_eq_some_iff.mp hrc).1
    have hi : (recsOf inp)[i]? = some ((recsOf inp)[i]'(by omega)) := List.getElem?_eq_getElem (by omega)
    have hp := ih _ hi
    obtain ⟨_, _, _, _, _, _, hfound, hnot⟩ := pt_step hp
    cases hf : (scan (inp.drop ((recsOf inp)[i]'(by omega)).byte) ((recsOf inp)[i]'(by omega)).byte []).1 with
    | false => have := hnot hf; omega
    | true =>
      have hp1 := hfound hf
      obtain ⟨rc', hk, hb, hl, _⟩ := pt_step hp1
      rw [hrc] at hk
      cases hk
      rw [hb, hl]; exact hp1

/-! ## a record located in a window -/

/-- `bp`, read relative to a window that starts at absolute offset `B` and has `buflen` bytes,
is the complete record that starts at absolute offset `s` -/
structure RecAt (inp : List UInt8) (B buflen : Nat) (bp : BufPos) (s : Nat) : Prop where
  start_eq : bp.start + B = s
  pos_le : ∀ p ∈ bp.seqPos, p ≤ buflen
  fin : bp.seqPos.map (· + B) = finalPos (scan (inp.drop s) s [])

theorem RecAt.mono {inp : List UInt8} {B n n' : Nat} {bp : BufPos} {s : Nat}
    (h : RecAt inp B n bp s) (hn : n ≤ n') : RecAt inp B n' bp s :=
  ⟨h.start_eq, fun p hp => Nat.le_trans (h.pos_le p hp) hn, h.fin⟩

theorem recAt_of_recDone {inp : List UInt8} {r : Reader} {s : Nat} (h : RecDone inp r s) :
    RecAt inp (base r) r.br.buf.length r.bp s :=
  ⟨h.start_eq, h.pos_le, h.fin⟩

theorem view_of_recAt {inp buf ext : List UInt8} {B : Nat} {bp : BufPos} {k s ln : Nat}
    (hb : B ≤ inp.length) (hw : inp.drop B = buf ++ ext) (h : RecAt inp B buf.length bp s)
    (hp : Pt inp k s ln) :
    ∃ rc, (recsOf inp)[k]? = some rc ∧ rc.byte = s ∧ rc.line = ln ∧
      head buf bp = some rc.head ∧ allSome (seqLines buf bp) = some rc.seqLines ∧
      bp.seqPos ≠ [] := by
  obtain ⟨rc, hk, hby, hln, hH, hSL, _, _⟩ := pt_step hp
  exact ⟨rc, hk, hby, hln, shown_of_shift hb hw h.start_eq h.pos_le h.fin hH hSL⟩

theorem viewRec_of {buf : List UInt8} {bp : BufPos} {rc : FaRec}
    (h1 : head buf bp = some rc.head) (h2 : allSome (seqLines buf bp) = some rc.seqLines) :
    viewRec buf bp = some (view rc) := by
  simp only [viewRec, h1, h2, view]

theorem ownedSeq_of {buf : List UInt8} {bp : BufPos} {rc : FaRec}
    (h2 : allSome (seqLines buf bp) = some rc.seqLines) :
    ownedSeq buf bp = some rc.seq := by
  simp only [ownedSeq, h2, Option.map_some, FaRec.seq]

/-- the record `k` that starts at `r.byte` has been found completely: it is what the reader
shows, and record `k + 1` starts at `search_pos` unless the input ends -/
theorem recDone_pt {inp : List UInt8} {r : Reader} {k : Nat} (hw : WinF inp r.br)
    (hd : RecDone inp r r.byte) (hp : Pt inp k r.byte r.line) :
    ∃ rc, (recsOf inp)[k]? = some rc ∧ rc.byte = r.byte ∧ viewRec r.br.buf r.bp = some (view rc) ∧
      head r.br.buf r.bp = some rc.head ∧ ownedSeq r.br.buf r.bp = some rc.seq ∧
      position r = some (posOf rc) ∧
      ((r.state ≠ .finished ∧ r.bp.start ≤ r.searchPos ∧ r.searchPos ≤ r.br.buf.length ∧
          Pt inp (k + 1) (r.searchPos + base r) (r.line + r.bp.seqPos.length)) ∨
       (r.state = .finished ∧ k + 1 = (recsOf inp).length)) := by
  obtain ⟨rc, hk, hby, hln, hH, hSL, hne⟩ := view_of_recAt hw.base_le hw.win (recAt_of_recDone hd) hp
  refine ⟨rc, hk, hby, viewRec_of hH hSL, hH, ownedSeq_of hSL,
    by rw [position_of_ne hne, posOf, hby, hln], ?_⟩
  obtain ⟨_, _, _, _, _, _, hfound, hnot⟩ := pt_step hp
  rcases hd.cases with ⟨hf, hnf, hsp, hsl, hsple⟩ | ⟨hf, hfin⟩
  · have hp1 := hfound hf
    rw [hsp, hd.len] at hp1
    exact Or.inl ⟨hnf, hsl, hsple, hp1⟩
  · exact Or.inr ⟨hfin, (hnot hf).symm⟩

end SeqIo.Fasta.Hist
