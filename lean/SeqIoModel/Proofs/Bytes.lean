import SeqIoModel.Model.Spec
/-!
# Texts and their lines

`splitLF` cuts a text at its LFs; `joinLF` and `unlines` put pieces together again (LF between
the pieces, resp. after each of them).  The laws that make them inverse to each other, what
`lines` keeps of the pieces, and `trimCr`.
-/

open SeqIo SeqIo.Spec

namespace SeqIo

theorem take_append_replicate_succ {α : Type} (l : List α) (x : α) (k : Nat) :
    (l ++ List.replicate (k + 1) x).take k = (l ++ List.replicate k x).take k := by
  rw [List.take_append, List.take_append, List.take_replicate, List.take_replicate]
  congr 2
  omega

end SeqIo

namespace SeqIo.WriteProofs

theorem getLast?_ne_of_not_mem (l : List UInt8) (c : UInt8) (h : c ∉ l) : l.getLast? ≠ some c :=
  fun e => h (List.mem_of_getLast? e)

theorem head?_ne_of_not_mem (l : List UInt8) (c : UInt8) (h : c ∉ l) : l.head? ≠ some c :=
  fun e => h (List.mem_of_head? e)

/-! ## `splitLF` -/

theorem splitLF_ne_nil (l : List UInt8) : splitLF l ≠ [] := by
  induction l with
  | nil => simp [splitLF]
  | cons b rest ih =>
    simp only [splitLF]
    split
    · simp
    · split <;> simp

theorem splitLF_noLF (a : List UInt8) (h : LF ∉ a) : splitLF a = [a] := by
  induction a with
  | nil => rfl
  | cons b rest ih =>
    simp only [List.mem_cons, not_or] at h
    simp only [splitLF, if_neg (Ne.symm h.1), ih h.2]

theorem splitLF_append (a b : List UInt8) (h : LF ∉ a) :
    splitLF (a ++ LF :: b) = a :: splitLF b := by
  induction a with
  | nil => simp [splitLF]
  | cons c rest ih =>
    simp only [List.mem_cons, not_or] at h
    simp only [List.cons_append, splitLF, if_neg (Ne.symm h.1), ih h.2]

theorem splitLF_pieces_noLF (l : List UInt8) : ∀ p ∈ splitLF l, LF ∉ p := by
  induction l with
  | nil => simp [splitLF]
  | cons b rest ih =>
    obtain ⟨q, qs, hs⟩ := List.exists_cons_of_ne_nil (splitLF_ne_nil rest)
    rw [hs] at ih
    simp only [splitLF, hs]
    split
    · intro p hp
      rcases List.mem_cons.mp hp with rfl | hp
      · simp
      · exact ih p hp
    · rename_i hb
      intro p hp
      rcases List.mem_cons.mp hp with rfl | hp
      · exact List.not_mem_cons_of_ne_of_not_mem (Ne.symm hb) (ih q (by simp))
      · exact ih p (by simp [hp])

/-! ## `unlines` -/

/-- the text of a list of lines, each terminated by LF -/
def unlines (ls : List (List UInt8)) : List UInt8 := ls.flatMap (· ++ [LF])

theorem unlines_nil : unlines [] = [] := rfl
theorem unlines_cons (l : List UInt8) (ls : List (List UInt8)) :
    unlines (l :: ls) = l ++ LF :: unlines ls := by simp [unlines]
theorem unlines_append (a b : List (List UInt8)) : unlines (a ++ b) = unlines a ++ unlines b := by
  simp [unlines]

/-- a text that starts with terminated LF-free lines splits into these lines and the pieces of
the rest -/
theorem splitLF_unlines_append (ls : List (List UInt8)) (h : ∀ l ∈ ls, LF ∉ l) (rest : List UInt8) :
    splitLF (unlines ls ++ rest) = ls ++ splitLF rest := by
  induction ls with
  | nil => rfl
  | cons l ls ih =>
    rw [unlines_cons, List.append_assoc, List.cons_append, splitLF_append _ _ (h l (by simp)),
      ih (fun x hx => h x (by simp [hx])), List.cons_append]

theorem splitLF_unlines (ls : List (List UInt8)) (h : ∀ l ∈ ls, LF ∉ l) :
    splitLF (unlines ls) = ls ++ [[]] := by
  have := splitLF_unlines_append ls h []
  rwa [List.append_nil] at this

/-! ## `lines` -/

/-- `lines` drops at most one piece, an empty last one -/
theorem splitLF_eq_lines (t : List UInt8) :
    ∃ tl, splitLF t = lines t ++ tl ∧ (tl = [] ∨ tl = [[]]) := by
  unfold lines
  simp only
  split
  · rename_i hl
    obtain ⟨ys, hys⟩ := List.getLast?_eq_some_iff.mp hl
    exact ⟨[[]], by rw [hys, List.dropLast_concat], Or.inr rfl⟩
  · exact ⟨[], by simp, Or.inl rfl⟩

theorem lines_noLF (inp : List UInt8) : ∀ l ∈ lines inp, LF ∉ l := by
  obtain ⟨tl, h, _⟩ := splitLF_eq_lines inp
  intro l hl
  exact splitLF_pieces_noLF inp l (by rw [h]; exact List.mem_append_left _ hl)

theorem lines_unlines (ls : List (List UInt8)) (h : ∀ l ∈ ls, LF ∉ l) :
    lines (unlines ls) = ls := by
  simp [lines, splitLF_unlines ls h]

theorem lines_nil : lines [] = [] := by simp [lines, splitLF]

theorem lines_cons (a b : List UInt8) (h : LF ∉ a) : lines (a ++ LF :: b) = a :: lines b := by
  obtain ⟨x, xs, hs⟩ := List.exists_cons_of_ne_nil (splitLF_ne_nil b)
  simp only [lines, splitLF_append a b h, hs, List.getLast?_cons_cons]
  split
  · rw [List.dropLast_cons_of_ne_nil (by simp)]
  · rfl

theorem lines_single (l : List UInt8) (h : LF ∉ l) (hne : l ≠ []) : lines l = [l] := by
  simp [lines, splitLF_noLF l h, hne]

/-! ## `trimCr` -/

theorem trimCr_eq (l : List UInt8) : trimCr l = if l.getLast? = some CR then l.dropLast else l := by
  unfold trimCr
  cases l.getLast? with
  | none => rfl
  | some c => simp only [Option.some.injEq]

theorem trimCr_id (l : List UInt8) (h : l.getLast? ≠ some CR) : trimCr l = l := by
  rw [trimCr_eq, if_neg h]

theorem trimCr_noCR (l : List UInt8) (h : CR ∉ l) : trimCr l = l :=
  trimCr_id l (getLast?_ne_of_not_mem l CR h)

theorem trimCr_append_cr (l : List UInt8) : trimCr (l ++ [CR]) = l := by
  rw [trimCr_eq, if_pos (by simp), List.dropLast_concat]

theorem trimCr_cases (l : List UInt8) : trimCr l = l ∨ l = trimCr l ++ [CR] := by
  rw [trimCr_eq]
  split
  · rename_i h
    obtain ⟨ys, rfl⟩ := List.getLast?_eq_some_iff.mp h
    exact Or.inr (by rw [List.dropLast_concat])
  · exact Or.inl rfl

theorem mem_of_mem_trimCr {l : List UInt8} {x : UInt8} (h : x ∈ trimCr l) : x ∈ l := by
  rcases trimCr_cases l with e | e
  · rwa [e] at h
  · rw [e]; exact List.mem_append_left _ h

theorem getLast?_GT_cons (h : List UInt8) (hh : h.getLast? ≠ some CR) :
    (GT :: h).getLast? ≠ some CR := by
  cases h with
  | nil => simp [GT, CR]
  | cons a t => simpa [List.getLast?_cons_cons] using hh

theorem not_blank_GT (p : List UInt8) : blank (GT :: p) = false := by
  unfold blank
  rcases trimCr_cases (GT :: p) with h | h
  · rw [h]; rfl
  · cases ht : trimCr (GT :: p) with
    | nil => rw [ht] at h; exact absurd (List.cons.inj h).1 (by decide)
    | cons _ _ => rfl

end SeqIo.WriteProofs

namespace SeqIo.Unchanged
open SeqIo.WriteProofs

/-! ## `joinLF` -/

/-- lines separated (not terminated) by LF: the inverse of `splitLF` -/
def joinLF : List (List UInt8) → List UInt8
  | [] => []
  | [a] => a
  | a :: b :: r => a ++ LF :: joinLF (b :: r)

theorem joinLF_cons_ne (a : List UInt8) (r : List (List UInt8)) (h : r ≠ []) :
    joinLF (a :: r) = a ++ LF :: joinLF r := by
  cases r with
  | nil => exact absurd rfl h
  | cons b r => rw [joinLF]

theorem joinLF_append_ne (xs ys : List (List UInt8)) (h : ys ≠ []) :
    joinLF (xs ++ ys) = unlines xs ++ joinLF ys := by
  induction xs with
  | nil => rfl
  | cons a r ih =>
    rw [List.cons_append, joinLF_cons_ne _ _ (by simp [h]), ih, unlines_cons, List.append_assoc,
      List.cons_append]

theorem joinLF_concat (xs : List (List UInt8)) (z : List UInt8) :
    joinLF (xs ++ [z]) = unlines xs ++ z :=
  joinLF_append_ne xs [z] (by simp)

theorem joinLF_add_LF (xs : List (List UInt8)) (h : xs ≠ []) : joinLF xs ++ [LF] = unlines xs := by
  rcases List.eq_nil_or_concat xs with rfl | ⟨ys, z, rfl⟩
  · exact absurd rfl h
  · rw [List.concat_eq_append, joinLF_concat, unlines_append, unlines_cons, List.append_assoc]
    rfl

/-- joined lines are a prefix of the text in which more lines follow -/
theorem take_joinLF (xs ys : List (List UInt8)) (hx : xs ≠ []) (hy : ys ≠ []) {n : Nat}
    (hn : n = (joinLF xs).length) : (joinLF (xs ++ ys)).take n = joinLF xs := by
  rw [joinLF_append_ne xs ys hy, ← joinLF_add_LF xs hx, List.append_assoc]
  exact List.take_left' hn.symm

theorem joinLF_splitLF (l : List UInt8) : joinLF (splitLF l) = l := by
  induction l with
  | nil => rfl
  | cons b rest ih =>
    obtain ⟨p, ps, hs⟩ := List.exists_cons_of_ne_nil (splitLF_ne_nil rest)
    rw [hs] at ih
    simp only [splitLF, hs]
    split
    · rename_i hb
      rw [joinLF, ih, hb]; rfl
    · cases ps <;> simp only [joinLF, List.cons_append] at ih ⊢ <;> rw [ih]

theorem splitLF_joinLF (xs : List (List UInt8)) (hne : xs ≠ []) (hx : ∀ l ∈ xs, LF ∉ l) :
    splitLF (joinLF xs) = xs := by
  rcases List.eq_nil_or_concat xs with rfl | ⟨ys, z, rfl⟩
  · exact absurd rfl hne
  · rw [List.concat_eq_append] at hx ⊢
    rw [joinLF_concat, splitLF_unlines_append ys (fun l hl => hx l (by simp [hl])),
      splitLF_noLF z (hx z (by simp))]

end SeqIo.Unchanged
