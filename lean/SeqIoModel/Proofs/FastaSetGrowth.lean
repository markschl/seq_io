import SeqIoModel.Proofs.FastaStreamGrowth
import SeqIoModel.Proofs.FastaSetGrowthChain
import SeqIoModel.Proofs.FastaHistory
/-!
# C09 for histories: the policy requests of `next` and of record set reads

From `RInv` (any state a history over a failure-free script can leave behind, policy possibly
refusing): one call extends the log by a `LogChain` from the capacity on entry to the capacity on
exit, `BufferLimit` is the result iff the last request was refused, and – `next` and plain sets –
every request passes a capacity into which the record that is read (the first of the batch) does
not fit.  For `next` this comes from `nextCont_gen`; for sets the chain is that of
`FastaSetGrowthChain`.
-/
open SeqIo SeqIo.FillProofs SeqIo.Spec

namespace SeqIo.Fasta.Hist

/-! ## the start of every record of S is a `RecStart` -/

theorem pt_unique {inp : List UInt8} {k s ln s' ln' : Nat} (h : Pt inp k s ln) (h' : Pt inp k s' ln') :
    s = s' := by
  obtain ⟨rc, hk, hb, _⟩ := pt_step h
  obtain ⟨rc', hk', hb', _⟩ := pt_step h'
  rw [hk] at hk'
  cases hk'
  rw [← hb, ← hb']

theorem recStart_of_pt (inp : List UInt8) : ∀ (k s ln : Nat), Pt inp k s ln → RecStart inp s := by
  intro k
  induction k with
  | zero =>
    intro s ln hp
    have hbs := blank_spec inp [] 0 0 0 0
    generalize hsb : scanBlank (splitLF inp) 0 0 0 = sb at hbs
    cases sb with
    | inl x =>
      obtain ⟨ln', pos', c⟩ := x
      simp only [Nat.sub_zero, List.append_nil, Nat.zero_add] at hbs
      obtain ⟨_, _, hskip, hhead, l, ls, hl, hc⟩ := hbs
      obtain ⟨h1, h2⟩ := items_of_skip inp pos' ln' c l ls hskip hl hc hhead
      by_cases hgt : c = GT
      · have hp0 := (h1 hgt).2
        rw [pt_unique hp hp0]
        exact RecStart.first (by rw [hskip, hl]) (by rw [hc, hgt])
      · have := hp.lt
        rw [(h2 hgt).1] at this
        cases this
    | inr x =>
      obtain ⟨ln', pos', ll⟩ := x
      simp only [List.append_nil, Nat.zero_add] at hbs
      obtain ⟨_, _, _, _, hsm, _, hskip⟩ := hbs
      have : (skipBlank (lines inp) 0 1).1 = [] := by
        rw [hskip]
        exact skipBlank_small _ hsm _ _
      have hlt := hp.lt
      rw [(items_of_skip_nil inp this).1] at hlt
      cases hlt
  | succ k ih =>
    intro s ln hp
    have hlt := hp.lt
    have hk : (recsOf inp)[k]? = some ((recsOf inp)[k]'(by omega)) := List.getElem?_eq_getElem (by omega)
    have hpk := pt_all inp k _ hk
    have hrs := ih _ _ hpk
    obtain ⟨_, _, _, _, _, _, hfound, hnot⟩ := pt_step hpk
    cases hf : (scan (inp.drop ((recsOf inp)[k]'(by omega)).byte) ((recsOf inp)[k]'(by omega)).byte []).1 with
    | false => have := hnot hf; omega
    | true =>
      have hp1 := hfound hf
      rw [pt_unique hp hp1]
      exact RecStart.next hrs hf

/-- the requests of a call, if any, concern record `k` of S, which does not fit the capacity
passed -/
def UnfitRec (inp : List UInt8) (k : Nat) (new : List (Nat × Option Nat)) : Prop :=
  new = [] ∨ ∃ rc, (recsOf inp)[k]? = some rc ∧ RecStart inp rc.byte ∧
    ∀ e ∈ new, e.1 < recExtent inp rc.byte + 1

theorem Ready.unfitRec {inp : List UInt8} {r : Reader} {k : Nat} (h : Ready inp r k)
    {new : List (Nat × Option Nat)} (hun : ∀ e ∈ new, e.1 < recExtent inp r.byte + 1) :
    UnfitRec inp k new := by
  obtain ⟨rc, hk, hb, _⟩ := pt_step h.pt
  exact Or.inr ⟨rc, hk, by rw [hb]; exact recStart_of_pt inp k _ _ h.pt, by rw [hb]; exact hun⟩

/-! ## plain reads ask only for the first record of the batch -/

open SeqIo.Fasta.Fault in
theorem setLoop_plain_incomplete {inp : List UInt8} {r : Reader} {k : Nat} (f fu : Nat)
    (rs : RecordSet) (h : Ready inp r k) (hst : r.state = .incomplete) (hfu : inp.length < fu) :
    ∃ new, (setLoop (f + 1) fu none true r rs).1.log = r.log ++ new ∧ UnfitRec inp k new := by
  obtain ⟨hfull, hnear⟩ := h.inc hst
  have hcl := h.win.b.cur_le
  obtain ⟨r', new, hg, hun, hcase⟩ := resume_spec fu r r.byte h.win h.scan hst hfull hnear (by omega)
  refine ⟨new, ?_, h.unfitRec hun⟩
  rw [setLoop_eq, if_neg (by rw [hst]; nofun), if_pos hst]
  rcases hcase with ⟨hres, _⟩ | ⟨hres, _⟩
  · rw [hres]
    simp only
    obtain ⟨hlc, hni⟩ := positioned_lc r'
    rw [(storeK_nogrow_of (tail_nogrow fu f true) _ rs hni).log, hlc.log]
    exact hg.log
  · rw [hres]
    exact hg.log

open SeqIo.Fasta.Fault in
/-- only the rounds up to the first stored record can ask the policy (`tail_nogrow`): a search that
exhausts the buffer and the resumed search, hence the fuel `f + 2` -/
theorem setLoop_plain {inp : List UInt8} {r : Reader} {k : Nat} (f fu : Nat)
    (rs : RecordSet) (h : Ready inp r k) (hst : r.state = .positioned ∨ r.state = .incomplete)
    (h0 : rs.npos = 0) (hfu : inp.length < fu) :
    ∃ new, (setLoop (f + 2) fu none true r rs).1.log = r.log ++ new ∧ UnfitRec inp k new := by
  rcases hst with hst | hst
  · obtain ⟨r1, fnd, hsearch, -, hbr1, hpol1, hlog1, hl1, hb1, hstart1, htrue, hfalse⟩ :=
      search_spec h.win.b.toF h.eof h.scan (by rw [hst]; nofun)
    rw [setLoop_eq, if_neg (by rw [hst]; nofun), if_neg (by rw [hst]; nofun), hsearch]
    cases fnd with
    | true =>
      refine ⟨[], ?_, Or.inl rfl⟩
      simp only
      rw [(storeK_nogrow_of (tail_nogrow fu (f + 1) true) r1 rs ?_).log, hlog1, List.append_nil]
      rcases (htrue rfl).2 with h' | h' <;> rw [h']
      · rw [hst]; nofun
      · nofun
    | false =>
      obtain ⟨hs1, hst1, hfull, hnear⟩ := hfalse rfl
      simp only
      unfold afterMiss
      rw [if_pos h0]
      have hr1 : Ready inp r1 k :=
        ⟨⟨by rw [hbr1]; exact h.win.b, by rw [hpol1]; exact h.win.pol⟩,
          by unfold Eof; rw [hbr1]; exact h.eof, by rw [hb1]; exact hs1, by rw [hb1, hl1]; exact h.pt,
          fun _ => ⟨by rw [hbr1]; exact hfull, by rw [hbr1]; exact hnear⟩⟩
      obtain ⟨new, hlog, hun⟩ := setLoop_plain_incomplete f fu rs hr1 hst1 hfu
      exact ⟨new, by rw [hlog, hlog1], hun⟩
  · exact setLoop_plain_incomplete (f + 1) fu rs h hst hfu

theorem nextCont_unfit {inp : List UInt8} {r : Reader} {k fu : Nat} (h : Ready inp r k)
    (hst : r.state = .parsing ∨ r.state = .incomplete) (hfu : inp.length < fu) :
    ∃ new, ChainOut r (nextCont fu r).1 (nextCont fu r).2 new ∧ UnfitRec inp k new := by
  obtain ⟨r', res, new, hres, -, -, -, hF, hcase⟩ :=
    nextCont_gen (.ofWin h.win) h.scan (hst.imp_left fun h' => ⟨h', h.eof⟩) hfu
  obtain ⟨hg, hun, -⟩ := hF h.inc
  refine ⟨new, ?_, h.unfitRec hun⟩
  rw [hres]
  rcases hcase with ⟨rfl, hN, -⟩ | ⟨-, -, ⟨rfl, hlast, -⟩ | ⟨k, -, hnf⟩⟩
  · exact ⟨hg, Or.inl ⟨nofun, hN⟩⟩
  · exact ⟨hg, Or.inr ⟨rfl, hlast⟩⟩
  · exact absurd h.win.b.nofail hnf

/-- **C09 for one `next` call** from any reader state a history can leave behind (the counterpart
of `next_growth_log` / `only_when_unfit` / `bufferLimit_iff_refused` for states reached through
record set reads and seeks as well) -/
theorem next_unfit {inp : List UInt8} {r : Reader} {k fu : Nat} (h : RInv inp r k)
    (hfu : inp.length < fu) :
    ∃ new, ChainOut r (next fu r).1 (next fu r).2 new ∧ UnfitRec inp k new := by
  have hcont : ∀ r0 : Reader, LC r r0 → Ready inp r0 k →
      (r0.state = .parsing ∨ r0.state = .incomplete) →
      ∃ new, ChainOut r (nextCont fu r0).1 (nextCont fu r0).2 new ∧ UnfitRec inp k new := by
    intro r0 hlc hr hst
    obtain ⟨new, hco, hun⟩ := nextCont_unfit hr hst hfu
    exact ⟨new, .prepend hlc.growth nofun hco, hun⟩
  obtain ⟨r1, res1, hent, -, hcase⟩ := enter_rinv h hfu .parsing nofun
  have hlc := enter_lc fu .parsing r
  rw [hent] at hlc
  rw [next_enter, hent]
  rcases hcase with ⟨rfl, hr1, hst1, -⟩ | ⟨rfl, -⟩ | ⟨ln, c, rfl, -⟩
  · exact hcont r1 hlc hr1 hst1
  · exact ⟨[], .of_lc hlc nofun, Or.inl rfl⟩
  · exact ⟨[], .of_lc hlc nofun, Or.inl rfl⟩

theorem setPost_ok (fu : Nat) (n : Option Nat) (rs : RecordSet) (r : Reader) :
    (Fault.setPost fu n rs (r, .ok true)).1 = (setLoop fu fu n true r { rs with npos := 0 }).1 ∧
      (Fault.setPost fu n rs (r, .ok true)).2.2 =
        (setLoop fu fu n true r { rs with npos := 0 }).2.2 := by
  unfold Fault.setPost
  simp only
  rcases setLoop fu fu n true r { rs with npos := 0 } with ⟨r2, rs2, res2⟩
  cases res2 with
  | ok b => cases b <;> exact ⟨rfl, rfl⟩
  | err e => exact ⟨rfl, rfl⟩
  | panic => exact ⟨rfl, rfl⟩
  | fuel => exact ⟨rfl, rfl⟩

/-- **C09 for one record set read**, from any reader state a history can leave behind:
the log is extended by a chain of requests from the capacity on entry to the capacity on exit,
the policy function is unchanged, `BufferLimit` is the result iff the last request was refused;
for a plain read (`n = none`) every request passes a capacity into which record `k` – the first
record of the batch – does not fit.  (For exact-count reads only the bookkeeping part holds: later
records of the batch may need a bigger buffer.) -/
theorem readSet_unfit {inp : List UInt8} {r : Reader} {k fu : Nat} (h : RInv inp r k)
    (hfu : 2 * inp.length + 2 < fu) (rs : RecordSet) (n : Option Nat) :
    ∃ new, ChainOut r (readRecordSetExact fu r rs n).1 (readRecordSetExact fu r rs n).2.2 new ∧
      (n = none → UnfitRec inp k new) := by
  have hfu1 : inp.length < fu := by omega
  obtain ⟨f, rfl⟩ : ∃ f, fu = f + 2 := ⟨fu - 2, by omega⟩
  rw [readSet_enter]
  -- the loop from a pending record
  have hloop : ∀ r0 : Reader, LC r r0 → Ready inp r0 k →
      (r0.state = .positioned ∨ r0.state = .incomplete) →
      ∃ new, ChainOut r (Fault.setPost (f + 2) n rs (r0, .ok true)).1
          (Fault.setPost (f + 2) n rs (r0, .ok true)).2.2 new ∧
        (n = none → UnfitRec inp k new) := by
    intro r0 hlc hr0 hst0
    obtain ⟨h1, h2⟩ := setPost_ok (f + 2) n rs r0
    rw [h1, h2]
    obtain ⟨new, hco, _⟩ := (setLoop_chains (f + 2) n (f + 2) true r0 { rs with npos := 0 }
      (fun hi => (hr0.inc hi).1)).lc_left hlc ⟨h.win.pol, by have := h.win.b.cap_ge; omega⟩
    refine ⟨new, hco, ?_⟩
    rintro rfl
    obtain ⟨new', hlog, hun⟩ := setLoop_plain f (f + 2) { rs with npos := 0 } hr0 hst0 rfl hfu1
    have hnew := hco.1.log
    rw [hlog, hlc.log] at hnew
    rw [← List.append_cancel_left hnew]
    exact hun
  obtain ⟨r1, res1, hent, -, hcase⟩ := enter_rinv h hfu1 .positioned nofun
  have hlc := enter_lc (f + 2) .positioned r
  rw [hent] at hlc
  rw [hent]
  rcases hcase with ⟨rfl, hr1, hst1, -⟩ | ⟨rfl, -⟩ | ⟨ln, c, rfl, -⟩
  · exact hloop r1 hlc hr1 hst1
  · exact ⟨[], .of_lc hlc nofun, fun _ => Or.inl rfl⟩
  · exact ⟨[], .of_lc hlc nofun, fun _ => Or.inl rfl⟩

theorem set_growth_log {inp : List UInt8} {m : MSt} {a : AState} (h : HInv inp m a)
    (rs : RecordSet) (n : Option Nat) :
    ∃ new, (readRecordSetExact (fuelOf m.r) m.r rs n).1.log = m.r.log ++ new ∧
      LogChain m.r.br.cap new (readRecordSetExact (fuelOf m.r) m.r rs n).1.br.cap ∧
      (readRecordSetExact (fuelOf m.r) m.r rs n).1.pol.f = m.r.pol.f ∧
      ((readRecordSetExact (fuelOf m.r) m.r rs n).2.2 = .err .bufferLimit ↔
        ∃ pre c, new = pre ++ [(c, none)]) ∧
      (n = none → new = [] ∨ ∃ rc, (recsOf inp)[a.k]? = some rc ∧ RecStart inp rc.byte ∧
        ∀ e ∈ new, e.1 < recExtent inp rc.byte + 1) := by
  obtain ⟨new, hco, hun⟩ := readSet_unfit h.rd h.fuel rs n
  exact ⟨new, hco.1.log, hco.1.chain, hco.1.polf, hco.iff, hun⟩

/-! ## inputs whose records all fit the buffer -/

theorem ChainOut.quiet {α : Type} {inp : List UInt8} {r r' : Reader} {res : Res α}
    {new : List (Nat × Option Nat)} (h : ChainOut r r' res new) (hfit : Fits inp r.br.cap)
    {k : Nat} (hun : UnfitRec inp k new) :
    r'.log = r.log ∧ r'.br.cap = r.br.cap ∧ res ≠ .err .bufferLimit := by
  cases new with
  | nil =>
    refine ⟨by rw [h.1.log, List.append_nil], h.1.chain, fun hres => ?_⟩
    obtain ⟨pre, c, hp⟩ := h.iff.mp hres
    simp at hp
  | cons e rest =>
    exfalso
    rcases hun with h' | ⟨rc, _, hrs, hlt⟩
    · cases h'
    · have h1 := hlt e (by simp)
      have h2 : e.1 = r.br.cap := h.1.chain.head_eq
      have := hfit _ hrs
      omega

/-- operations of a history that never needs a bigger buffer than one record -/
def PlainOp : Op → Prop
  | .next => True
  | .owned => True
  | .set _ none => True
  | .set _ (some _) => False
  | .dump _ => True
  | .pos => True
  | .seekRec _ => False

def finalM (m : MSt) : List Op → MSt
  | [] => m
  | op :: ops => finalM (stepM m op).1 ops

theorem obs_error {res : Res Bool} {e : Err} :
    (∀ r, obsNext r res = .error e → res = .err e) ∧
      (∀ r, obsOwned r res = .error e → res = .err e) ∧
      (∀ rs, obsSet rs res = .error e → res = .err e) := by
  cases res with
  | ok b =>
    cases b with
    | true =>
      refine ⟨fun r h => ?_, fun r h => ?_, fun _ h => nomatch h⟩
      · simp only [obsNext] at h
        split at h <;> cases h
      · simp only [obsOwned] at h
        split at h <;> cases h
    | false => refine ⟨?_, ?_, ?_⟩ <;> intro _ h <;> cases h
  | err e' => refine ⟨?_, ?_, ?_⟩ <;> intro _ h <;> cases h <;> rfl
  | panic => refine ⟨?_, ?_, ?_⟩ <;> intro _ h <;> cases h
  | fuel => refine ⟨?_, ?_, ?_⟩ <;> intro _ h <;> cases h

theorem step_fits {inp : List UInt8} {m : MSt} {a : AState} (h : HInv inp m a)
    (hfit : Fits inp m.r.br.cap) (op : Op) (hop : PlainOp op) :
    (stepM m op).1.r.log = m.r.log ∧ (stepM m op).1.r.br.cap = m.r.br.cap ∧
      (stepM m op).2 ≠ .error .bufferLimit := by
  have hnext : (next (fuelOf m.r) m.r).1.log = m.r.log ∧
      (next (fuelOf m.r) m.r).1.br.cap = m.r.br.cap ∧
      (next (fuelOf m.r) m.r).2 ≠ .err .bufferLimit := by
    obtain ⟨new, hco, hun⟩ := next_unfit (fu := fuelOf m.r) h.rd (by have := h.fuel; omega)
    exact hco.quiet hfit hun
  cases op with
  | next => exact ⟨hnext.1, hnext.2.1, fun ho => hnext.2.2 (obs_error.1 _ ho)⟩
  | owned => exact ⟨hnext.1, hnext.2.1, fun ho => hnext.2.2 (obs_error.2.1 _ ho)⟩
  | pos => exact ⟨rfl, rfl, nofun⟩
  | seekRec i => exact absurd hop (by simp [PlainOp])
  | dump j =>
    simp only [stepM]
    cases m.sets[j]? with
    | none => exact ⟨rfl, rfl, nofun⟩
    | some rs =>
      refine ⟨rfl, rfl, ?_⟩
      simp only [obsDump]
      split <;> nofun
  | set j n =>
    cases n with
    | some n' => exact absurd hop (by simp [PlainOp])
    | none =>
      cases hj : m.sets[j]? with
      | none =>
        rw [stepM_set_none (by nofun) hj]
        exact ⟨rfl, rfl, nofun⟩
      | some rs =>
        rw [stepM_set_some (by nofun) hj]
        obtain ⟨new, hco, hun⟩ := readSet_unfit h.rd h.fuel rs none
        obtain ⟨h1, h2, h3⟩ := hco.quiet hfit (hun rfl)
        exact ⟨h1, h2, fun ho => h3 (obs_error.2.2 _ ho)⟩

theorem run_fits {inp : List UInt8} : ∀ (ops : List Op) (m : MSt) (a : AState), HInv inp m a →
    Fits inp m.r.br.cap → (∀ op ∈ ops, PlainOp op) →
    ((finalM m ops).r.log = m.r.log ∧ (finalM m ops).r.br.cap = m.r.br.cap) ∧
      runA (items inp) a ops (runM m ops) = true
  | [], _, _, _, _, _ => ⟨⟨rfl, rfl⟩, rfl⟩
  | op :: ops, m, a, h, hfit, hplain => by
    obtain ⟨hl, hc, hne⟩ := step_fits h hfit op (hplain op (by simp))
    obtain ⟨a', hinv', _, hacc⟩ := step_hinv h op
    obtain ⟨⟨h1, h2⟩, h3⟩ := run_fits ops _ a' hinv' (by rw [hc]; exact hfit)
      (fun o ho => hplain o (by simp [ho]))
    refine ⟨⟨by rw [finalM, h1, hl], by rw [finalM, h2, hc]⟩, ?_⟩
    rcases hacc with hacc | ⟨hobs, _⟩
    · rw [runM, runA_cons _ _ _ _ _ _ _ hacc]
      exact h3
    · exact absurd hobs hne

/-- **C09/C18 for histories.** If every record of the input fits the buffer (extent + 1 ≤
capacity), then no history of `next`, owned `next`, plain record set reads, iterations over sets
and `position` calls ever asks the policy: the log stays empty and the capacity unchanged –
whatever the policy (it may refuse), the failure-free read script and the chunking. -/
theorem fitting_never_grows_history (inp : List UInt8) (cap : Nat) (hcap : 3 ≤ cap) (pol : Pol)
    (hpol : PolWfPos pol) (script : List ReadEv) (hs : NoFail script) (chunk : Nat)
    (ops : List Op) (hplain : ∀ op ∈ ops, PlainOp op) (hfit : Fits inp cap) :
    (finalM (mkMSt inp cap pol script chunk) ops).r.log = [] ∧
      (finalM (mkMSt inp cap pol script chunk) ops).r.br.cap = cap :=
  (run_fits ops _ _ (hinv_init inp cap hcap pol hpol script hs chunk) hfit hplain).1

/-- if every record fits, such a history is accepted by A whatever the policy: no `BufferLimit`
is ever reported -/
theorem fitting_history_accepted (inp : List UInt8) (cap : Nat) (hcap : 3 ≤ cap) (pol : Pol)
    (hpol : PolWfPos pol) (script : List ReadEv) (hs : NoFail script) (chunk : Nat)
    (ops : List Op) (hplain : ∀ op ∈ ops, PlainOp op) (hfit : Fits inp cap) :
    runA (items inp) aInit ops (runM (mkMSt inp cap pol script chunk) ops) = true :=
  (run_fits ops _ _ (hinv_init inp cap hcap pol hpol script hs chunk) hfit hplain).2

end SeqIo.Fasta.Hist
