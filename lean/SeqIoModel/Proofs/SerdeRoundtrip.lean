import SeqIoModel.Model.Serde
/-!
# Serde round-trips

Deserialising the serialised value of an owned record, a buffer position or a record set gives the
value back, unchanged (in particular a reused record set whose `positions` list is longer than
`npos` keeps its stale offsets, and iterating the deserialised set yields the same records since it
is the same value).
-/

namespace SeqIo.Serde

theorem mapM_map_some {α β : Type} (f : α → β) (g : β → Option α) (h : ∀ x, g (f x) = some x)
    (l : List α) : (l.map f).mapM g = some l := by
  induction l with
  | nil => simp
  | cons x xs ih => simp [List.mapM_cons, h, ih]

theorem deByte_num_toNat (b : UInt8) : deByte (.num b.toNat) = some b := by
  have h : b.toNat < 256 := UInt8.toNat_lt b
  simp [deByte, h]

theorem deBytes_serBytes (l : List UInt8) : deBytes (serBytes l) = some l := by
  simp only [serBytes, deBytes]
  exact mapM_map_some _ _ deByte_num_toNat l

theorem deNats_serNats (l : List Nat) : deNats (serNats l) = some l := by
  simp only [serNats, deNats]
  exact mapM_map_some Json.num deNum (fun _ => rfl) l

theorem deFaOwned_ser (r : FaOwned) : deFaOwned (serFaOwned r) = some r := by
  simp [deFaOwned, serFaOwned, deBytes_serBytes]

theorem deFqOwned_ser (r : FqOwned) : deFqOwned (serFqOwned r) = some r := by
  simp [deFqOwned, serFqOwned, deBytes_serBytes]

theorem deFaPos_ser (p : Fasta.BufPos) : deFaPos (serFaPos p) = some p := by
  simp [deFaPos, serFaPos, deNats_serNats, deNum]

theorem deFqPos_ser (p : Fastq.BufPos) : deFqPos (serFqPos p) = some p := by
  simp [deFqPos, serFqPos, deNum]

theorem deFaSet_ser (rs : Fasta.RecordSet) : deFaSet (serFaSet rs) = some rs := by
  simp [deFaSet, serFaSet, deBytes_serBytes, deNum, mapM_map_some _ _ deFaPos_ser]

theorem deFqSet_ser (rs : Fastq.RecordSet) : deFqSet (serFqSet rs) = some rs := by
  simp [deFqSet, serFqSet, deBytes_serBytes, mapM_map_some _ _ deFqPos_ser]

end SeqIo.Serde
