import SeqIoModel.Proofs.FastaStreamInv
import SeqIoModel.Proofs.FastaStreamSpec
/-!
# `first_byte` skips exactly the blank lines S skips

`FB` is the invariant of the loop of `first_byte`: the buffer holds at most a CR, and what
`skipBlank` has yet to skip starts at the buffer.  One round is `blank_spec` (FastaStreamSpec) on the refilled buffer.
The loop is analysed once, for an arbitrary read script (`firstByte_gen`): everything but `small`
is kept by a failed refill as well, and `small` matters only for what the result `none` means.
-/
open SeqIo SeqIo.FillProofs SeqIo.Spec

namespace SeqIo.Fasta

/-- loop invariant of `first_byte`.  `small`: a round that saw only blank lines ends with
`consume(pos - 1 - last_line_len)`, which drops everything but the last, unterminated line, and that
line is empty or a lone CR -/
structure FB (inp : List UInt8) (r : Reader) : Prop where
  win : Win inp r
  byte_eq : r.byte = base r
  small : r.br.buf = [] ∨ r.br.buf = [CR]
  skip : skipBlank (lines inp) 0 1 = skipBlank (lines (inp.drop (base r))) (base r) (r.line + 1)

def FBPost (inp : List UInt8) (r' : Reader) : Option (Nat × Nat × UInt8) → Prop
  | none => (skipBlank (lines inp) 0 1).1 = []
  | some (ln, pos, c) =>
    Eof inp r' ∧ r'.byte = base r' ∧ pos < r'.br.buf.length ∧
    (inp.drop (pos + base r')).head? = some c ∧
    skipBlank (lines inp) 0 1 = (lines (inp.drop (pos + base r')), pos + base r', ln) ∧
    ∃ l ls, lines (inp.drop (pos + base r')) = l :: ls ∧ l.head? = some c

theorem skipBlank_small (b : List UInt8) (h : b = [] ∨ b = [CR]) (byte line : Nat) :
    (skipBlank (lines b) byte line).1 = [] := by
  rcases h with rfl | rfl
  · simp [WriteProofs.lines_nil, skipBlank]
  · have h1 : lines [CR] = [[CR]] := by
      rw [lines_of_noLF _ (by simp [CR, LF])]; simp
    have h2 : blank [CR] = true := (blank_iff _).mpr (Or.inr rfl)
    simp [h1, skipBlank, h2]

/-- what `first_byte` drops from a buffer of `len` bytes that holds blank lines only, `ll ≤ 1` bytes
of an unfinished line at its end; `p` is the position `blank_spec` reports for a scan from 0 -/
theorem csub_blank {p len ll : Nat} (hp : p = 0 + len + 1) (hll : ll ≤ len) :
    csub p (1 + ll) = some (len - ll) := by
  unfold csub
  rw [if_pos (by omega)]
  congr 1
  omega

/-- a refill that read `n ≠ 0` bytes uses up one unit of fuel -/
theorem fuel_after_fill {len cur n f a : Nat} (hn : n = min a (len - cur)) (hn0 : n ≠ 0)
    (hf : len - cur < f + 1) : len - (cur + n) < f := by
  omega

/-- `first_byte` from a state of its loop, for an arbitrary script: it stops at the first non-blank
line, or at the end of the input, or a refill fails.  The loop keeps window, `byte` and the blank
lines skipped so far in step with S whatever happens; `none` means that S finds nothing either if the
buffer held at most a CR on entry (every later round starts so). -/
theorem Hist.firstByte_gen {inp : List UInt8} : ∀ (fuel : Nat) (r : Reader), WinR inp r →
    r.byte = base r →
    skipBlank (lines inp) 0 1 = skipBlank (lines (inp.drop (base r))) (base r) (r.line + 1) →
    inp.length - r.br.src.cursor < fuel →
    ∃ r' res, firstByte fuel r = (r', res) ∧ WinR inp r' ∧ r'.byte = base r' ∧
      skipBlank (lines inp) 0 1 = skipBlank (lines (inp.drop (base r'))) (base r') (r'.line + 1) ∧
      r'.br.src.seekFails = r.br.src.seekFails ∧ r'.bp = r.bp ∧
      r'.searchPos = r.searchPos ∧ r'.state = r.state ∧ r'.log = r.log ∧ r'.pol = r.pol ∧
      r'.br.cap = r.br.cap ∧ (NoFail r.br.src.script → NoFail r'.br.src.script) ∧
      ((∃ k, res = .err (.io k) ∧ ¬ NoFail r.br.src.script) ∨
       (res = .ok none ∧ Eof inp r' ∧ (r.br.buf = [] ∨ r.br.buf = [CR] → FBPost inp r' none)) ∨
       (∃ ln pos c, res = .ok (some (ln, pos, c)) ∧ FBPost inp r' (some (ln, pos, c)))) := by
  intro fuel
  induction fuel with
  | zero => intro r _ _ _ h; exact absurd h (Nat.not_lt_zero _)
  | succ f ih =>
    intro r hw hbyte hskip hfuel
    rcases fill_winF hw.b with ⟨br2, n, hfill, hwb2, heof2, hbase2, hcap2, hlen2, hcur2, hn, hsf2⟩ |
      ⟨br2, k, hfill, hwb2, hbase2, hcap2, -, -, hsf2⟩
    · obtain ⟨-, used, hstp⟩ := fillBuf_ok _ _ _ hfill
      have hnf2 : NoFail r.br.src.script → NoFail br2.src.script :=
        fun h => noFail_suffix (hstp.script ▸ h)
      have hw2 : WinR inp { r with br := br2 } := ⟨hwb2, hw.pol⟩
      have hb2 : base { r with br := br2 } = base r := hbase2
      have hbyte2 : r.byte = baseB br2 := hbyte.trans hbase2.symm
      have hskip2 : skipBlank (lines inp) 0 1 =
          skipBlank (lines (inp.drop (baseB br2))) (baseB br2) (r.line + 1) := by
        rw [hbase2]; exact hskip
      by_cases hn0 : n = 0
      · -- nothing more to read: only a blank rest is left
        subst hn0
        refine ⟨{ r with br := br2 }, _, firstByte_succ_zero f r br2 hfill, hw2, hbyte2, hskip2, hsf2,
          rfl, rfl, rfl, rfl, rfl, hcap2, hnf2, Or.inr (Or.inl ⟨rfl, heof2, fun hsmall => ?_⟩)⟩
        show (skipBlank (lines inp) 0 1).1 = []
        have hcur : r.br.src.cursor = inp.length := by
          have hlen1 : r.br.buf.length ≤ 1 := by
            rcases hsmall with h | h <;> rw [h] <;> simp
          have := hw.b.cap_ge
          have := hw.b.cur_le
          omega
        have hwin := hw.b.win
        rw [hcur, List.drop_length, List.append_nil] at hwin
        rw [hskip]
        unfold base
        rw [hwin]
        exact skipBlank_small _ hsmall _ _
      · rw [firstByte_succ_ok f r br2 n hn0 hfill]
        have hwin2 : inp.drop (base r) = br2.buf ++ inp.drop br2.src.cursor := by
          rw [← hwb2.win, hbase2]; rfl
        have hbs := blank_spec br2.buf (inp.drop br2.src.cursor) r.line 0 0 (base r)
        rw [← hwin2] at hbs
        generalize scanBlank (splitLF br2.buf) r.line 0 0 = sb at hbs
        cases sb with
        | inl x =>
          obtain ⟨ln', pos', c⟩ := x
          simp only [Nat.sub_zero] at hbs
          obtain ⟨_, hpos, hsk, hhead, hl⟩ := hbs
          have e : (inp.drop (base r)).drop pos' = inp.drop (pos' + base r) := by
            rw [List.drop_drop, Nat.add_comm]
          rw [e] at hsk hl
          refine ⟨{ r with br := br2 }, _, rfl, hw2, hbyte2, hskip2, hsf2, rfl, rfl, rfl, rfl, rfl,
            hcap2, hnf2, Or.inr (Or.inr ⟨ln', pos', c, rfl, heof2, hbyte2, hpos, ?_, ?_, ?_⟩)⟩
          · show (inp.drop (pos' + baseB br2)).head? = some c
            rw [win_dropF hwb2 pos' (Nat.le_of_lt hpos), List.head?_append, hhead]
            rfl
          · rw [hb2, hskip, hsk, Nat.add_comm]
          · rw [hb2]; exact hl
        | inr x =>
          -- only blank lines so far: the buffer is dropped up to a trailing `\r`
          obtain ⟨ln', pos', ll⟩ := x
          obtain ⟨hpos, _, hllw, hln, hsm, _, hsk⟩ := hbs
          have hc2 : csub ln' 1 = some (ln' - 1) := if_pos hln
          simp only [csub_blank hpos hllw, hc2]
          have hcle : br2.buf.length - ll ≤ br2.buf.length := Nat.sub_le _ _
          obtain ⟨hwb3, hbase3⟩ := consume_winF hwb2 (br2.buf.length - ll) hcle
          have hb3 : baseB (br2.consume (br2.buf.length - ll)) = base r + (br2.buf.length - ll) := by
            rw [hbase3, hbase2]; rfl
          obtain ⟨r', res, hres, hw', hb', hsk', hsf', hbp', hsp', hst', hlog', hpol', hcap', hnf',
              hcase⟩ := ih { r with line := ln' - 1, byte := r.byte + (br2.buf.length - ll),
                                    br := br2.consume (br2.buf.length - ll) } ⟨hwb3, hw.pol⟩
            (by show r.byte + _ = baseB (br2.consume _)
                rw [hb3, hbyte])
            (by show skipBlank (lines inp) 0 1 =
                  skipBlank (lines (inp.drop (baseB (br2.consume (br2.buf.length - ll)))))
                    (baseB (br2.consume (br2.buf.length - ll))) (ln' - 1 + 1)
                rw [hwb3.win, hb3, ← Nat.add_sub_assoc hllw, Nat.sub_add_cancel hln]
                exact hskip.trans hsk)
            (by show inp.length - br2.src.cursor < f
                rw [hcur2]
                exact fuel_after_fill hn hn0 hfuel)
          refine ⟨r', res, hres, hw', hb', hsk', hsf'.trans hsf2, hbp', hsp', hst', hlog', hpol',
            hcap'.trans hcap2, fun h => hnf' (hnf2 h), ?_⟩
          rcases hcase with ⟨k, hres, hnf⟩ | ⟨hres, he, hp⟩ | found
          · exact Or.inl ⟨k, hres, fun h => hnf (hnf2 h)⟩
          · exact Or.inr (Or.inl ⟨hres, he, fun _ => hp hsm⟩)
          · exact Or.inr (Or.inr found)
    · obtain ⟨used, rest, m, hsc, -, -, -⟩ := fillBuf_error _ _ _ hfill
      have hnf : ¬ NoFail r.br.src.script := fun hnf => hnf (.fail k) (by rw [hsc]; simp) k rfl
      exact ⟨{ r with br := br2 }, _, firstByte_succ_err f r br2 k hfill, ⟨hwb2, hw.pol⟩,
        hbyte.trans hbase2.symm, by show _ = skipBlank (lines (inp.drop (baseB br2))) (baseB br2) _
                                    rw [hbase2]; exact hskip,
        hsf2, rfl, rfl, rfl, rfl, rfl, hcap2, fun h => absurd h hnf, Or.inl ⟨k, rfl, hnf⟩⟩

/-- `first_byte` with a failure-free script: it stops without error at the first non-blank line or
at the end of the input; there the buffer is complete and starts at `byte` -/
theorem firstByte_loop {inp : List UInt8} (fuel : Nat) (r : Reader) (hfb : FB inp r)
    (hfuel : inp.length - r.br.src.cursor < fuel) :
    ∃ r' res, firstByte fuel r = (r', .ok res) ∧ Eof inp r' ∧ r'.byte = base r' ∧
      r'.br.src.seekFails = r.br.src.seekFails ∧ Win inp r' ∧ r'.bp = r.bp ∧
      r'.searchPos = r.searchPos ∧ r'.state = r.state ∧ r'.log = r.log ∧ r'.pol = r.pol ∧
      r'.br.cap = r.br.cap ∧ FBPost inp r' res := by
  obtain ⟨r', res, hres, hw', hb', -, hsf, hbp, hsp, hst, hlog, hpol, hcap, hnf', hcase⟩ :=
    Hist.firstByte_gen fuel r (.ofWin hfb.win) hfb.byte_eq hfb.skip hfuel
  have hwin : Win inp r' := ⟨hw'.b.toB (hnf' hfb.win.b.nofail), hw'.pol⟩
  rcases hcase with ⟨k, -, hnf⟩ | ⟨rfl, he, hp⟩ | ⟨ln, pos, c, rfl, hp⟩
  · exact absurd hfb.win.b.nofail hnf
  · exact ⟨r', none, hres, he, hb', hsf, hwin, hbp, hsp, hst, hlog, hpol, hcap, hp hfb.small⟩
  · exact ⟨r', _, hres, hp.1, hb', hsf, hwin, hbp, hsp, hst, hlog, hpol, hcap, hp⟩

end SeqIo.Fasta
