import SeqIoModel.Proofs.FastaStreamScan
import SeqIoModel.Proofs.FastaOps
/-!
# The buffer window and the record scan across refills

`base r` is the file offset of `buf[0]`.  `WinF`: the buffer is a window of the input; `WinB`: and
the read script has no failing event; `WinR` / `Win` add the policy contract.
`resume_gen`: `resume_incomplete_search(make_room)` for both values of `make_room` (`false` = grow
instead of shifting, so that offsets into the buffer stay valid) and arbitrary read scripts.
-/
open SeqIo SeqIo.FillProofs

namespace SeqIo.Fasta

/-! ## the window -/

def baseB (b : BufRd) : Nat := b.src.cursor - b.buf.length

def base (r : Reader) : Nat := baseB r.br

/-- `cap_ge` is the `assert!(capacity >= 3)` of `Reader::with_capacity`; the proofs need it only to
know that a buffer holding at most a CR is not full (`firstByte_loop`) and that `grow` is asked
with a positive capacity -/
structure Hist.WinF (inp : List UInt8) (b : BufRd) : Prop where
  inp_eq : b.src.inp = inp
  len_le : b.buf.length ≤ b.src.cursor
  cur_le : b.src.cursor ≤ inp.length
  win : inp.drop (baseB b) = b.buf ++ inp.drop b.src.cursor
  cap_ge : 3 ≤ b.cap
  len_cap : b.buf.length ≤ b.cap

open Hist

structure WinB (inp : List UInt8) (b : BufRd) : Prop where
  inp_eq : b.src.inp = inp
  len_le : b.buf.length ≤ b.src.cursor
  cur_le : b.src.cursor ≤ inp.length
  win : inp.drop (baseB b) = b.buf ++ inp.drop b.src.cursor
  cap_ge : 3 ≤ b.cap
  len_cap : b.buf.length ≤ b.cap
  nofail : NoFail b.src.script

def EofB (inp : List UInt8) (b : BufRd) : Prop := b.buf.length < b.cap → b.src.cursor = inp.length

theorem WinB.toF {inp : List UInt8} {b : BufRd} (h : WinB inp b) : WinF inp b :=
  ⟨h.inp_eq, h.len_le, h.cur_le, h.win, h.cap_ge, h.len_cap⟩

namespace Hist

theorem WinF.toB {inp : List UInt8} {b : BufRd} (h : WinF inp b) (hn : NoFail b.src.script) :
    WinB inp b :=
  ⟨h.inp_eq, h.len_le, h.cur_le, h.win, h.cap_ge, h.len_cap, hn⟩

theorem WinF.base_le {inp : List UInt8} {b : BufRd} (h : WinF inp b) : baseB b ≤ inp.length :=
  Nat.le_trans (Nat.sub_le _ _) h.cur_le

theorem WinF.base_add {inp : List UInt8} {b : BufRd} (h : WinF inp b) :
    baseB b + b.buf.length = b.src.cursor :=
  Nat.sub_add_cancel h.len_le

theorem win_dropF {inp : List UInt8} {b : BufRd} (h : WinF inp b) (k : Nat) (hk : k ≤ b.buf.length) :
    inp.drop (k + baseB b) = b.buf.drop k ++ inp.drop b.src.cursor := by
  rw [Nat.add_comm, ← List.drop_drop, h.win, List.drop_append_of_le_length hk]

theorem WinF.step {inp : List UInt8} {b b' : BufRd} {m : Nat} {used : List ReadEv}
    (h : WinF inp b) (hst : Step b b' m used) : WinF inp b' ∧ baseB b' = baseB b := by
  have hlen := hst.buf_length
  have hle := Nat.le_min.mp hst.le
  simp only [Src.remaining, h.inp_eq] at hle
  have hbase : baseB b' = baseB b := by
    unfold baseB
    rw [hst.cursor, hlen]
    exact Nat.add_sub_add_right _ _ _
  refine ⟨⟨by rw [hst.inp, h.inp_eq], by rw [hst.cursor, hlen]; exact Nat.add_le_add_right h.len_le m,
    by rw [hst.cursor]; exact Nat.add_le_of_le_sub' h.cur_le hle.2, ?_,
    by rw [hst.cap]; exact h.cap_ge,
    by rw [hst.cap, hlen]; exact Nat.add_le_of_le_sub' h.len_cap hle.1⟩, hbase⟩
  rw [hbase, h.win, hst.buf, h.inp_eq, hst.cursor, List.append_assoc, ← List.drop_drop,
    List.take_append_drop]

theorem fill_winF {inp : List UInt8} {b : BufRd} (h : WinF inp b) :
    (∃ b' n, fillBuf b = (b', .ok n) ∧ WinF inp b' ∧ EofB inp b' ∧ baseB b' = baseB b ∧
      b'.cap = b.cap ∧ b'.buf.length = b.buf.length + n ∧ b'.src.cursor = b.src.cursor + n ∧
      n = min (b.cap - b.buf.length) (inp.length - b.src.cursor) ∧
      b'.src.seekFails = b.src.seekFails) ∨
    (∃ b' k, fillBuf b = (b', .error k) ∧ WinF inp b' ∧ baseB b' = baseB b ∧ b'.cap = b.cap ∧
      b.buf.length ≤ b'.buf.length ∧ (EofB inp b → EofB inp b') ∧
      b'.src.seekFails = b.src.seekFails) := by
  match hr : fillBuf b with
  | (b', .ok n) =>
    obtain ⟨hn, used, hst⟩ := fillBuf_ok b b' n hr
    obtain ⟨hw, hbase⟩ := h.step hst
    simp only [Src.remaining, h.inp_eq] at hn
    refine Or.inl ⟨b', n, rfl, hw, ?_, hbase, hst.cap, hst.buf_length, hst.cursor, hn, hst.seekFails⟩
    intro hlt
    rw [hst.cap, hst.buf_length] at hlt
    have := h.cur_le
    rw [hst.cursor]
    omega
  | (b', .error k) =>
    obtain ⟨b0, m, used, rest, hst, -, rfl⟩ := fillBuf_error_state b b' k hr
    obtain ⟨hw, hbase⟩ := h.step hst
    refine Or.inr ⟨_, k, rfl, ⟨hw.inp_eq, hw.len_le, hw.cur_le, hw.win, hw.cap_ge, hw.len_cap⟩,
      hbase, hst.cap, Nat.le.intro hst.buf_length.symm, ?_, hst.seekFails⟩
    intro he hlt
    have hcl := hw.cur_le
    rw [hst.cursor] at hcl ⊢
    have := he (by rw [← hst.cap]; exact Nat.lt_of_le_of_lt (Nat.le.intro hst.buf_length.symm) hlt)
    omega

theorem consume_winF {inp : List UInt8} {b : BufRd} (h : WinF inp b) (c : Nat) (hc : c ≤ b.buf.length) :
    WinF inp (b.consume c) ∧ baseB (b.consume c) = baseB b + c := by
  have hll := h.len_le
  have hbase : baseB (b.consume c) = baseB b + c := by
    simp only [baseB, BufRd.consume, List.length_drop]
    omega
  refine ⟨⟨h.inp_eq, ?_, h.cur_le, ?_, h.cap_ge, ?_⟩, hbase⟩
  · simp only [BufRd.consume, List.length_drop]
    exact Nat.le_trans (Nat.sub_le _ _) h.len_le
  · rw [hbase, Nat.add_comm, win_dropF h c hc]
    rfl
  · simp only [BufRd.consume, List.length_drop]
    exact Nat.le_trans (Nat.sub_le _ _) h.len_cap

end Hist

theorem WinB.base_le {inp : List UInt8} {b : BufRd} (h : WinB inp b) : baseB b ≤ inp.length :=
  h.toF.base_le

theorem WinB.base_add {inp : List UInt8} {b : BufRd} (h : WinB inp b) :
    baseB b + b.buf.length = b.src.cursor :=
  h.toF.base_add

theorem fill_win {inp : List UInt8} {b : BufRd} (h : WinB inp b) :
    ∃ b' n, fillBuf b = (b', .ok n) ∧ WinB inp b' ∧ EofB inp b' ∧ baseB b' = baseB b ∧
      b'.cap = b.cap ∧ b'.buf.length = b.buf.length + n ∧ b'.src.cursor = b.src.cursor + n ∧
      n = min (b.cap - b.buf.length) (inp.length - b.src.cursor) ∧
      b'.src.seekFails = b.src.seekFails := by
  obtain ⟨b', n, hr⟩ := fillBuf_noFail_ok b h.nofail
  obtain ⟨-, used, hst⟩ := fillBuf_ok b b' n hr
  rcases fill_winF h.toF with ⟨b2, n2, hr2, hw, rest⟩ | ⟨b2, k, hr2, -⟩
  · rw [hr] at hr2
    cases hr2
    exact ⟨b', n, hr, hw.toB (noFail_suffix (hst.script ▸ h.nofail)), rest⟩
  · rw [hr] at hr2
    cases hr2

theorem consume_win {inp : List UInt8} {b : BufRd} (h : WinB inp b) (c : Nat) (hc : c ≤ b.buf.length) :
    WinB inp (b.consume c) ∧ baseB (b.consume c) = baseB b + c :=
  ⟨(consume_winF h.toF c hc).1.toB h.nofail, (consume_winF h.toF c hc).2⟩

theorem reserve_buf (b : BufRd) (a : Nat) : (b.reserve a).buf = b.buf := by
  unfold BufRd.reserve
  simp only
  split
  · rfl
  · split <;> rfl

theorem reserve_cap_ge (b : BufRd) (a : Nat) : b.cap ≤ (b.reserve a).cap := by
  unfold BufRd.reserve
  simp only
  split
  · exact Nat.le_refl _
  · split <;> simp only <;> omega

theorem Hist.reserve_winF {inp : List UInt8} {b : BufRd} (h : WinF inp b) (a : Nat) :
    WinF inp (b.reserve a) ∧ baseB (b.reserve a) = baseB b := by
  have hb : baseB (b.reserve a) = baseB b := by
    simp only [baseB, reserve_buf, reserve_src]
  have hc := reserve_cap_ge b a
  refine ⟨⟨by rw [reserve_src]; exact h.inp_eq, by rw [reserve_src, reserve_buf]; exact h.len_le,
    by rw [reserve_src]; exact h.cur_le, ?_, Nat.le_trans h.cap_ge hc, ?_⟩, hb⟩
  · rw [hb, reserve_buf, reserve_src]; exact h.win
  · rw [reserve_buf]; exact Nat.le_trans h.len_cap hc

/-! ## scanning a window -/

theorem scan_window_found (w ext : List UInt8) (sp : Nat) (acc : List Nat) (B : Nat)
    (h : (scan w sp acc).1 = true) :
    scan (w ++ ext) (sp + B) (acc.map (· + B)) = shiftRes B (scan w sp acc) := by
  rw [scan_shift, scan_append, if_pos h]

theorem scan_window_notfound (w ext : List UInt8) (sp : Nat) (acc : List Nat) (B : Nat)
    (h : (scan w sp acc).1 = false) :
    scan (w ++ ext) (sp + B) (acc.map (· + B)) =
      scan (w.drop ((scan w sp acc).2.1 - sp) ++ ext) ((scan w sp acc).2.1 + B)
        ((scan w sp acc).2.2.map (· + B)) := by
  rw [scan_shift, scan_shift, scan_append, if_neg (by rw [h]; exact Bool.false_ne_true)]

/-! ## policies -/

/-- what the reader needs from a policy to never report `BufferLimit`: asked with a capacity
≥ 1 it never refuses and answers more than it was passed (`PolOk` demands this for capacity 0
as well, which the doubling built-in policies do not satisfy) -/
def PolGrows (p : Pol) : Prop :=
  ∀ (h : List Nat) (cur : Nat), 1 ≤ cur → ∃ n, p.f (h ++ [cur]) = some n ∧ cur < n

/-- `PolWf` restricted to positive capacities -/
def PolWfPos (p : Pol) : Prop :=
  ∀ (h : List Nat) (cur n : Nat), 1 ≤ cur → p.f (h ++ [cur]) = some n → cur < n

theorem PolOk.grows {p : Pol} (h : PolOk p) : PolGrows p := fun hist cur _ => h hist cur

theorem PolGrows.wfPos {p : Pol} (h : PolGrows p) : PolWfPos p := by
  intro hist cur n hc hn
  obtain ⟨m, hm, hlt⟩ := h hist cur hc
  rw [hm] at hn
  cases hn
  exact hlt

theorem PolWf.wfPos {p : Pol} (h : PolWf p) : PolWfPos p := fun hist cur n _ hn => h hist cur n hn

theorem polGrows_std : PolGrows PolDesc.std.toPol := by
  intro h cur hc
  refine ⟨_, rfl, ?_⟩
  simp only [List.getLastD_eq_getLast?, List.getLast?_append, List.getLast?_singleton,
    Option.some_or, Option.getD_some]
  split <;> omega

theorem polGrows_doubleUntil (t : Nat) (ht : 1 ≤ t) : PolGrows (PolDesc.doubleUntil t).toPol := by
  intro h cur hc
  refine ⟨_, rfl, ?_⟩
  simp only [List.getLastD_eq_getLast?, List.getLast?_append, List.getLast?_singleton,
    Option.some_or, Option.getD_some]
  split <;> omega

theorem polGrows_congr {p q : Pol} (h : q.f = p.f) (hp : PolGrows p) : PolGrows q := by
  intro hist cur hc
  rw [h]
  exact hp hist cur hc

theorem polWfPos_congr {p q : Pol} (h : q.f = p.f) (hp : PolWfPos p) : PolWfPos q := by
  intro hist cur n hc
  rw [h]
  exact hp hist cur n hc

/-! ## reader-level invariants -/

structure Win (inp : List UInt8) (r : Reader) : Prop where
  b : WinB inp r.br
  pol : PolWfPos r.pol

def Eof (inp : List UInt8) (r : Reader) : Prop := EofB inp r.br

/-- the stored search state is an intermediate state of the scan of the record that starts
at absolute offset `s` -/
structure ScanSt (inp : List UInt8) (r : Reader) (s : Nat) : Prop where
  start_eq : r.bp.start + base r = s
  start_le : r.bp.start ≤ r.searchPos
  sp_le : r.searchPos ≤ r.br.buf.length
  pos_lt : ∀ p ∈ r.bp.seqPos, r.bp.start ≤ p ∧ p < r.searchPos
  resum : scan (inp.drop (r.searchPos + base r)) (r.searchPos + base r)
      (r.bp.seqPos.map (· + base r)) = scan (inp.drop s) s []

theorem ScanSt.atStart {inp : List UInt8} {r : Reader} {s : Nat} (hbp : r.bp = ⟨r.searchPos, []⟩)
    (hs : r.searchPos + base r = s) (hle : r.searchPos ≤ r.br.buf.length) : ScanSt inp r s := by
  subst hs
  refine ⟨by rw [hbp], by rw [hbp]; exact Nat.le_refl _, hle, ?_, by rw [hbp]; rfl⟩
  rw [hbp]
  intro p hp
  cases hp

theorem ScanSt.afterGt {inp : List UInt8} {r : Reader} {pos : Nat} (hbp : r.bp = ⟨pos, []⟩)
    (hsp : r.searchPos = pos + 1) (hpos : pos < r.br.buf.length)
    (hhead : (inp.drop (pos + base r)).head? = some GT) : ScanSt inp r (pos + base r) := by
  refine ⟨by rw [hbp], by rw [hbp, hsp]; exact Nat.le_succ _, by rw [hsp]; exact hpos, ?_, ?_⟩
  · rw [hbp]
    intro p hp
    cases hp
  · rw [hbp, hsp, List.map_nil, ← scan_skip_gt _ _ hhead, List.drop_drop,
      Nat.add_right_comm pos (base r) 1]

/-- the record that starts at absolute offset `s` has been found completely -/
structure RecDone (inp : List UInt8) (r : Reader) (s : Nat) : Prop where
  start_eq : r.bp.start + base r = s
  pos_le : ∀ p ∈ r.bp.seqPos, p ≤ r.br.buf.length
  fin : r.bp.seqPos.map (· + base r) = finalPos (scan (inp.drop s) s [])
  st : r.state = .finished ↔ (scan (inp.drop s) s []).1 = false
  nxt : (scan (inp.drop s) s []).1 = true →
    (scan (inp.drop s) s []).2.1 = r.searchPos + base r ∧ r.bp.start ≤ r.searchPos ∧
      r.searchPos ≤ r.br.buf.length

theorem RecDone.len {inp : List UInt8} {r : Reader} {s : Nat} (h : RecDone inp r s) :
    (finalPos (scan (inp.drop s) s [])).length = r.bp.seqPos.length := by
  rw [← h.fin, List.length_map]

theorem RecDone.cases {inp : List UInt8} {r : Reader} {s : Nat} (h : RecDone inp r s) :
    ((scan (inp.drop s) s []).1 = true ∧ r.state ≠ .finished ∧
      (scan (inp.drop s) s []).2.1 = r.searchPos + base r ∧ r.bp.start ≤ r.searchPos ∧
      r.searchPos ≤ r.br.buf.length) ∨
    ((scan (inp.drop s) s []).1 = false ∧ r.state = .finished) := by
  cases hf : (scan (inp.drop s) s []).1 with
  | true =>
    refine Or.inl ⟨rfl, fun hfin => ?_, h.nxt hf⟩
    rw [h.st.mp hfin] at hf
    cases hf
  | false => exact Or.inr ⟨rfl, h.st.mpr hf⟩

/-! ## `search` -/

theorem search_eq (r : Reader) (h : r.searchPos ≤ r.br.buf.length) :
    search r =
      if (scan (r.br.buf.drop r.searchPos) r.searchPos r.bp.seqPos).1 then
        some ({ r with searchPos := (scan (r.br.buf.drop r.searchPos) r.searchPos r.bp.seqPos).2.1,
                       bp := { r.bp with seqPos := (scan (r.br.buf.drop r.searchPos) r.searchPos r.bp.seqPos).2.2 } }, true)
      else if r.br.buf.length < r.br.cap then
        some ({ r with searchPos := (scan (r.br.buf.drop r.searchPos) r.searchPos r.bp.seqPos).2.1,
                       bp := { r.bp with seqPos := (scan (r.br.buf.drop r.searchPos) r.searchPos r.bp.seqPos).2.2 ++
                         [(scan (r.br.buf.drop r.searchPos) r.searchPos r.bp.seqPos).2.1] },
                       state := .finished }, true)
      else
        some ({ r with searchPos := (scan (r.br.buf.drop r.searchPos) r.searchPos r.bp.seqPos).2.1,
                       bp := { r.bp with seqPos := (scan (r.br.buf.drop r.searchPos) r.searchPos r.bp.seqPos).2.2 },
                       state := .incomplete }, false) := by
  unfold search search_
  simp only [h, if_true]
  generalize scan (r.br.buf.drop r.searchPos) r.searchPos r.bp.seqPos = x
  rcases x with ⟨f, sp, acc⟩
  cases f <;> simp

theorem finalPos_shift (B : Nat) (x : Bool × Nat × List Nat) :
    finalPos (shiftRes B x) = (finalPos x).map (· + B) := by
  rcases x with ⟨f, sp, acc⟩
  cases f <;> simp [finalPos, shiftRes]

theorem ScanSt.scan_bounds {inp : List UInt8} {r : Reader} {s : Nat} (hs : ScanSt inp r s) :
    r.searchPos ≤ (scan (r.br.buf.drop r.searchPos) r.searchPos r.bp.seqPos).2.1 ∧
    (scan (r.br.buf.drop r.searchPos) r.searchPos r.bp.seqPos).2.1 ≤ r.br.buf.length ∧
    ∀ p ∈ (scan (r.br.buf.drop r.searchPos) r.searchPos r.bp.seqPos).2.2,
      r.bp.start ≤ p ∧ p < (scan (r.br.buf.drop r.searchPos) r.searchPos r.bp.seqPos).2.1 := by
  have hge := scan_sp_ge (r.br.buf.drop r.searchPos) r.searchPos r.bp.seqPos
  have hnb := scan_new_bounds (r.br.buf.drop r.searchPos) r.searchPos r.bp.seqPos
  have hsp := hs.sp_le
  have hsl := hs.start_le
  rw [List.length_drop] at hge
  generalize scan (r.br.buf.drop r.searchPos) r.searchPos r.bp.seqPos = x at hge hnb ⊢
  refine ⟨hge.1, by omega, fun p hp => ?_⟩
  rcases hnb p hp with h | h
  · have := hs.pos_lt p h
    omega
  · omega

theorem Hist.search_spec {inp : List UInt8} {r : Reader} {s : Nat}
    (hw : WinF inp r.br) (he : Eof inp r) (hs : ScanSt inp r s) (hst : r.state ≠ .finished) :
    ∃ r' f, search r = some (r', f) ∧ r.searchPos ≤ r'.searchPos ∧ r'.br = r.br ∧ r'.pol = r.pol ∧ r'.log = r.log ∧
      r'.line = r.line ∧ r'.byte = r.byte ∧ r'.bp.start = r.bp.start ∧
      (f = true → RecDone inp r' s ∧ (r'.state = r.state ∨ r'.state = .finished)) ∧
      (f = false → ScanSt inp r' s ∧ r'.state = .incomplete ∧ r.br.cap ≤ r.br.buf.length ∧
        r.br.buf.length ≤ r'.searchPos + 1) := by
  have hsp := hs.sp_le
  have hres := hs.resum
  unfold base at hres
  rw [win_dropF hw r.searchPos hsp] at hres
  obtain ⟨hge, hle, hpos⟩ := hs.scan_bounds
  have hnear := scan_notfound_sp (r.br.buf.drop r.searchPos) r.searchPos r.bp.seqPos
  rw [List.length_drop] at hnear
  rw [search_eq r hsp]
  generalize hx : scan (r.br.buf.drop r.searchPos) r.searchPos r.bp.seqPos = x at hge hle hpos hnear
  have hstart : r.bp.start ≤ x.2.1 := Nat.le_trans hs.start_le hge
  have hple : ∀ p ∈ x.2.2, p ≤ r.br.buf.length :=
    fun p hp => Nat.le_of_lt (Nat.lt_of_lt_of_le (hpos p hp).2 hle)
  by_cases hf : x.1 = true
  · -- found in the buffer
    rw [if_pos hf]
    have hS : scan (inp.drop s) s [] = shiftRes (baseB r.br) x := by
      rw [← hres, ← hx]
      exact scan_window_found _ _ _ _ _ (by rw [hx]; exact hf)
    refine ⟨_, _, rfl, hge, rfl, rfl, rfl, rfl, rfl, rfl,
      fun _ => ⟨⟨hs.start_eq, hple, ?_, ?_, fun _ => ?_⟩, Or.inl rfl⟩, by intro h; cases h⟩
    · rw [hS]
      simp [finalPos, shiftRes, hf, base]
    · rw [hS]
      simp only [shiftRes, hf]
      exact ⟨fun h => absurd h hst, fun h => by cases h⟩
    · rw [hS]
      exact ⟨rfl, hstart, hle⟩
  · have hf' : x.1 = false := Bool.eq_false_iff.mpr hf
    rw [if_neg hf]
    by_cases hlt : r.br.buf.length < r.br.cap
    · -- end of input
      rw [if_pos hlt]
      have hS : scan (inp.drop s) s [] = shiftRes (baseB r.br) x := by
        rw [← hres, ← hx, he hlt, List.drop_length, List.append_nil]
        exact scan_shift _ _ _ _
      refine ⟨_, _, rfl, hge, rfl, rfl, rfl, rfl, rfl, rfl,
        fun _ => ⟨⟨hs.start_eq, fun p hp => ?_, ?_, ?_, fun h => ?_⟩, Or.inr rfl⟩, by intro h; cases h⟩
      · rcases List.mem_append.mp hp with hp | hp
        · exact hple p hp
        · rw [List.mem_singleton.mp hp]
          exact hle
      · rw [hS, finalPos_shift]
        simp [finalPos, hf', base]
      · rw [hS]
        simp only [shiftRes, hf']
      · rw [hS] at h
        simp only [shiftRes, hf'] at h
        cases h
    · -- buffer exhausted without result
      rw [if_neg hlt]
      replace hnear := hnear hf'
      refine ⟨_, _, rfl, hge, rfl, rfl, rfl, rfl, rfl, rfl, (by intro h; cases h),
        fun _ => ⟨⟨hs.start_eq, hstart, hle, hpos, ?_⟩, rfl, Nat.le_of_not_lt hlt,
          (by show r.br.buf.length ≤ x.2.1 + 1; omega)⟩⟩
      show scan (inp.drop (x.2.1 + baseB r.br)) (x.2.1 + baseB r.br) (x.2.2.map (· + baseB r.br)) = _
      have h1 := scan_window_notfound (r.br.buf.drop r.searchPos) (inp.drop r.br.src.cursor)
        r.searchPos r.bp.seqPos (baseB r.br) (by rw [hx]; exact hf')
      rw [hx] at h1
      rw [← hres, win_dropF hw x.2.1 hle, h1, List.drop_drop, Nat.add_sub_of_le hge]

/-! ## growth bookkeeping -/

/-- `LogChain c0 new cf`: every request of `new` is made with the current capacity (`c0` at first),
an answer `some n` makes `n` current, a refusal ends the chain; `cf` is the capacity at the end. -/
def LogChain : Nat → List (Nat × Option Nat) → Nat → Prop
  | c0, [], cf => cf = c0
  | c0, (c, some n) :: rest, cf => c = c0 ∧ LogChain n rest cf
  | c0, (c, none) :: rest, cf => c = c0 ∧ rest = [] ∧ cf = c0

theorem LogChain.append {pre post : List (Nat × Option Nat)} {a b c : Nat}
    (h1 : LogChain a pre b) (hs : ∀ e ∈ pre, e.2 ≠ none) (h2 : LogChain b post c) :
    LogChain a (pre ++ post) c := by
  induction pre generalizing a with
  | nil =>
    simp only [LogChain] at h1
    subst h1
    exact h2
  | cons e pre ih =>
    rcases e with ⟨x, _ | n⟩
    · exact absurd rfl (hs (x, none) (by simp))
    · simp only [LogChain, List.cons_append] at h1 ⊢
      exact ⟨h1.1, ih h1.2 (fun e he => hs e (by simp [he]))⟩

/-- the extent of the record that starts at absolute offset `s`: up to and including the
terminator before the next record, or up to the end of the input -/
def recExtent (inp : List UInt8) (s : Nat) : Nat :=
  if (scan (inp.drop s) s []).1 then (scan (inp.drop s) s []).2.1 - s else inp.length - s

structure Growth (r r' : Reader) (new : List (Nat × Option Nat)) : Prop where
  log : r'.log = r.log ++ new
  polf : r'.pol.f = r.pol.f
  chain : LogChain r.br.cap new r'.br.cap

theorem Growth.same {r r' : Reader} (hl : r'.log = r.log) (hp : r'.pol.f = r.pol.f)
    (hc : r'.br.cap = r.br.cap) : Growth r r' [] :=
  ⟨by rw [hl, List.append_nil], hp, hc⟩

theorem Growth.trans {r r1 r' : Reader} {pre post : List (Nat × Option Nat)}
    (h1 : Growth r r1 pre) (hs : ∀ e ∈ pre, e.2 ≠ none) (h2 : Growth r1 r' post) :
    Growth r r' (pre ++ post) :=
  ⟨by rw [h2.log, h1.log, List.append_assoc], by rw [h2.polf, h1.polf],
    h1.chain.append hs h2.chain⟩

/-! ## `grow`, `make_room` -/

theorem polWfPos_hist (p : Pol) (h : List Nat) (hp : PolWfPos p) : PolWfPos { p with hist := h } := hp

theorem reserve_cap_full (b : BufRd) (n : Nat) (hfull : b.cap ≤ b.buf.length) (hn : b.cap < n) :
    (b.reserve (n - b.cap)).cap = n := by
  unfold BufRd.reserve
  simp only
  split
  · omega
  · split <;> simp only <;> omega

theorem grow_refuse {r : Reader} (hn : r.pol.f (r.pol.hist ++ [r.br.cap]) = none) :
    grow r = ({ r with pol := { r.pol with hist := r.pol.hist ++ [r.br.cap] },
                       log := r.log ++ [(r.br.cap, none)] }, .err .bufferLimit) := by
  simp only [grow, Pol.growTo, hn]

theorem grow_answer {r : Reader} {n : Nat} (hn : r.pol.f (r.pol.hist ++ [r.br.cap]) = some n)
    (hle : r.br.cap ≤ n) :
    grow r = ({ r with pol := { r.pol with hist := r.pol.hist ++ [r.br.cap] },
                       log := r.log ++ [(r.br.cap, some n)],
                       br := r.br.reserve (n - r.br.cap) }, .ok ()) := by
  simp only [grow, Pol.growTo, hn, csub, hle, if_true]

theorem grow_spec {r : Reader} (hp : PolWfPos r.pol) (hfull : r.br.cap ≤ r.br.buf.length)
    (hcap : 1 ≤ r.br.cap) :
    (∃ r' n, r.pol.f (r.pol.hist ++ [r.br.cap]) = some n ∧ grow r = (r', .ok ()) ∧
      r'.br = r.br.reserve (n - r.br.cap) ∧ r.br.cap < n ∧ r'.br.cap = n ∧
      r'.log = r.log ++ [(r.br.cap, some n)] ∧ r'.pol.f = r.pol.f ∧
      r'.bp = r.bp ∧ r'.line = r.line ∧ r'.byte = r.byte ∧ r'.searchPos = r.searchPos ∧
      r'.state = r.state) ∨
    (∃ r', r.pol.f (r.pol.hist ++ [r.br.cap]) = none ∧ grow r = (r', .err .bufferLimit) ∧
      r'.br = r.br ∧ r'.log = r.log ++ [(r.br.cap, none)] ∧ r'.pol.f = r.pol.f) := by
  cases hn : r.pol.f (r.pol.hist ++ [r.br.cap]) with
  | none => exact Or.inr ⟨_, rfl, grow_refuse hn, rfl, rfl, rfl⟩
  | some n =>
    have hlt : r.br.cap < n := hp _ _ _ hcap hn
    exact Or.inl ⟨_, n, rfl, grow_answer hn (Nat.le_of_lt hlt), rfl, hlt,
      reserve_cap_full _ _ hfull hlt, rfl, rfl, rfl, rfl, rfl, rfl, rfl⟩

theorem mapSub_eq (c : Nat) (l : List Nat) (h : ∀ p ∈ l, c ≤ p) :
    mapSub c l = some (l.map (· - c)) := by
  induction l with
  | nil => rfl
  | cons x xs ih =>
    have hx : c ≤ x := h x (by simp)
    simp only [mapSub, csub, hx, if_true, ih (fun p hp => h p (by simp [hp])), List.map_cons]

theorem makeRoom_eq (r : Reader) (h1 : r.bp.start ≤ r.searchPos)
    (h2 : ∀ p ∈ r.bp.seqPos, r.bp.start ≤ p) :
    makeRoom r = some { r with br := r.br.consume r.bp.start,
                               bp := { start := 0, seqPos := r.bp.seqPos.map (· - r.bp.start) },
                               searchPos := r.searchPos - r.bp.start } := by
  simp only [makeRoom, csub, h1, if_true, mapSub_eq _ _ h2]

theorem scanSt_of_br {inp : List UInt8} {r r' : Reader} {s : Nat} (h : ScanSt inp r s)
    (hb : base r' = base r) (hbp : r'.bp = r.bp) (hsp : r'.searchPos = r.searchPos)
    (hlen : r.br.buf.length ≤ r'.br.buf.length) : ScanSt inp r' s := by
  refine ⟨?_, ?_, ?_, ?_, ?_⟩
  · rw [hbp, hb]; exact h.start_eq
  · rw [hbp, hsp]; exact h.start_le
  · rw [hsp]; have := h.sp_le; omega
  · rw [hbp, hsp]; exact h.pos_lt
  · rw [hbp, hsp, hb]; exact h.resum

theorem Hist.makeRoom_scanStF {inp : List UInt8} {r : Reader} {s : Nat} (hw : WinF inp r.br)
    (h : ScanSt inp r s) :
    ∃ r', makeRoom r = some r' ∧ WinF inp r'.br ∧ ScanSt inp r' s ∧ r'.state = r.state ∧
      r'.br.buf.length = r.br.buf.length - r.bp.start ∧ r'.br.cap = r.br.cap ∧
      r'.br.src = r.br.src ∧ r'.line = r.line ∧ r'.byte = r.byte ∧
      r'.log = r.log ∧ r'.pol = r.pol := by
  have hsl := h.start_le
  have hsp := h.sp_le
  have hc : r.bp.start ≤ r.br.buf.length := by omega
  obtain ⟨hwb, hbase⟩ := consume_winF hw r.bp.start hc
  refine ⟨_, makeRoom_eq r hsl (fun p hp => (h.pos_lt p hp).1), hwb, ?_, rfl, ?_, rfl, rfl, rfl, rfl, rfl, rfl⟩
  · refine ⟨?_, ?_, ?_, ?_, ?_⟩
    · show 0 + baseB (r.br.consume r.bp.start) = s
      rw [hbase, ← h.start_eq]; unfold base; omega
    · exact Nat.zero_le _
    · show r.searchPos - r.bp.start ≤ (r.br.consume r.bp.start).buf.length
      simp only [BufRd.consume, List.length_drop]; omega
    · intro p hp
      replace hp : p ∈ r.bp.seqPos.map (· - r.bp.start) := hp
      show 0 ≤ p ∧ p < r.searchPos - r.bp.start
      simp only [List.mem_map] at hp
      obtain ⟨q, hq, rfl⟩ := hp
      have := h.pos_lt q hq
      omega
    · show scan (inp.drop (r.searchPos - r.bp.start + baseB (r.br.consume r.bp.start)))
        (r.searchPos - r.bp.start + baseB (r.br.consume r.bp.start))
        ((r.bp.seqPos.map (· - r.bp.start)).map (· + baseB (r.br.consume r.bp.start))) = _
      have e1 : r.searchPos - r.bp.start + baseB (r.br.consume r.bp.start) = r.searchPos + base r := by
        rw [hbase]; unfold base; omega
      have e2 : (r.bp.seqPos.map (· - r.bp.start)).map (· + baseB (r.br.consume r.bp.start)) =
          r.bp.seqPos.map (· + base r) := by
        rw [List.map_map]
        apply List.map_congr_left
        intro p hp
        have := (h.pos_lt p hp).1
        simp only [Function.comp, hbase, base]
        omega
      rw [e1, e2]
      exact h.resum
  · simp only [BufRd.consume, List.length_drop]

/-! ## `resume_incomplete_search` -/

/-- a full buffer that starts with the record and does not contain its end: the record does not
fit the capacity -/
theorem unfit_of_full {inp : List UInt8} {r : Reader} {s : Nat} (hw : WinF inp r.br)
    (hs : ScanSt inp r s) (h0 : r.bp.start = 0) (hfull : r.br.cap ≤ r.br.buf.length)
    (hnear : r.br.buf.length ≤ r.searchPos + 1) : r.br.cap < recExtent inp s + 1 := by
  have hse := hs.start_eq
  rw [h0, Nat.zero_add] at hse
  have hba := hw.base_add
  have hcl := hw.cur_le
  unfold base at hse
  unfold recExtent
  split
  · rename_i hf
    have hlt := scan_found_lt (inp.drop (r.searchPos + base r)) (r.searchPos + base r)
      (r.bp.seqPos.map (· + base r)) (by rw [hs.resum]; exact hf)
    rw [hs.resum] at hlt
    unfold base at hlt
    omega
  · omega

/-- the second half of an iteration of `resume_incomplete_search`: refill and search; `k` is the
rest of the loop -/
def fillSearch (k : Reader → Reader × Res Bool) (r : Reader) : Reader × Res Bool :=
  match fillBuf r.br with
  | (br, .error e) => ({ r with br := br }, .err (.io e))
  | (br, .ok _) =>
    match search { r with br := br } with
    | none => (r, .panic)
    | some (r, true) => (r, .ok true)
    | some (r, false) => k r

def Refused (r : Reader) (res : Res Bool) (new : List (Nat × Option Nat)) : Prop :=
  res = .err .bufferLimit ∧ (∃ pre c, new = pre ++ [(c, none)]) ∧
    ∃ h c, 1 ≤ c ∧ r.pol.f (h ++ [c]) = none

theorem Refused.not_grows {r : Reader} {res : Res Bool} {new : List (Nat × Option Nat)}
    (h : Refused r res new) : ¬ PolGrows r.pol := by
  obtain ⟨_, _, hist, c, hc, hf⟩ := h
  intro hg
  obtain ⟨n, hn, _⟩ := hg hist c hc
  rw [hf] at hn
  cases hn

namespace Hist

structure WinR (inp : List UInt8) (r : Reader) : Prop where
  b : WinF inp r.br
  pol : PolWfPos r.pol

theorem WinR.ofWin {inp : List UInt8} {r : Reader} (h : Win inp r) : WinR inp r :=
  ⟨h.b.toF, h.pol⟩

/-- the first half of an iteration of `resume_incomplete_search`: shift or grow -/
def step1 (mk : Bool) (r : Reader) : Reader × Res Unit :=
  if !mk || r.bp.start = 0 then grow r
  else match makeRoom r with
    | some r' => (r', .ok ())
    | none => (r, .panic)

theorem resume_unfold (f : Nat) (mk : Bool) (r : Reader) :
    resume (f + 1) mk r =
      match step1 mk r with
      | (r, .ok ()) =>
        match fillBuf r.br with
        | (br, .error k) => ({ r with br := br }, .err (.io k))
        | (br, .ok _) =>
          match search { r with br := br } with
          | none => (r, .panic)
          | some (r, true) => (r, .ok true)
          | some (r, false) => resume f mk r
      | (r, .err e) => (r, .err e)
      | (r, .panic) => (r, .panic)
      | (r, .fuel) => (r, .fuel) := by
  rw [resume]
  rfl

/-- what every operation, `grow` included, leaves alone (`LC` is the finer relation that holds of
everything but `grow`) -/
structure Frame (r r' : Reader) : Prop where
  polf : r'.pol.f = r.pol.f
  seekFails : r'.br.src.seekFails = r.br.src.seekFails

theorem Frame.refl (r : Reader) : Frame r r := ⟨rfl, rfl⟩

theorem Frame.trans {a b c : Reader} (h1 : Frame a b) (h2 : Frame b c) : Frame a c :=
  ⟨by rw [h2.polf, h1.polf], by rw [h2.seekFails, h1.seekFails]⟩

/-- what `resume_incomplete_search(mk)` leaves alone: the pending record stays where it is in the
file, and with `mk = false` the buffer is only ever extended (offsets into it stay valid) -/
structure Kept (mk : Bool) (r r' : Reader) : Prop extends Frame r r' where
  line : r'.line = r.line
  byte : r'.byte = r.byte
  ext : mk = false → base r' = base r ∧ r.br.buf.length ≤ r'.br.buf.length

theorem Kept.trans {mk : Bool} {a b c : Reader} (h1 : Kept mk a b) (h2 : Kept mk b c) : Kept mk a c :=
  ⟨h1.toFrame.trans h2.toFrame, by rw [h2.line, h1.line], by rw [h2.byte, h1.byte], fun h =>
    ⟨by rw [(h2.ext h).1, (h1.ext h).1], Nat.le_trans (h1.ext h).2 (h2.ext h).2⟩⟩

theorem Kept.of_false {mk : Bool} {r r' : Reader} (h : Kept false r r') : Kept mk r r' :=
  ⟨h.toFrame, h.line, h.byte, fun _ => h.ext rfl⟩

/-- `pre` is what the policy log gains; it describes the capacities only if the buffer was full,
since otherwise `reserve` need not allocate. -/
theorem resume_step1 {inp : List UInt8} {r : Reader} {s : Nat} (mk : Bool) (hw : WinR inp r)
    (hs : ScanSt inp r s) :
    ∃ r1 pre, Kept mk r r1 ∧ (r.br.cap ≤ r.br.buf.length → Growth r r1 pre) ∧ WinR inp r1 ∧
      ScanSt inp r1 s ∧ r1.state = r.state ∧ r1.br.src = r.br.src ∧
      (∀ e ∈ pre, e.1 = r.br.cap ∧ (mk = true → r.bp.start = 0)) ∧
      (((∀ f, resume (f + 1) mk r = (r1, .err .bufferLimit)) ∧ pre = [(r.br.cap, none)] ∧
          r.pol.f (r.pol.hist ++ [r.br.cap]) = none ∧ r1.br = r.br ∧ r1.searchPos = r.searchPos) ∨
       ((∀ f, resume (f + 1) mk r = fillSearch (resume f mk) r1) ∧ (∀ e ∈ pre, e.2 ≠ none) ∧
          r1.br.buf.length < r1.br.cap)) := by
  have hcap3 := hw.b.cap_ge
  have hlc := hw.b.len_cap
  by_cases hc : (!mk || decide (r.bp.start = 0)) = true
  · have h0 : mk = true → r.bp.start = 0 := by
      intro h; rw [h] at hc; simpa using hc
    cases hn : r.pol.f (r.pol.hist ++ [r.br.cap]) with
    | none =>
      refine ⟨{ r with pol := { r.pol with hist := r.pol.hist ++ [r.br.cap] },
                       log := r.log ++ [(r.br.cap, none)] },
        [(r.br.cap, none)], ⟨⟨rfl, rfl⟩, rfl, rfl, fun _ => ⟨rfl, Nat.le_refl _⟩⟩,
        fun _ => ⟨rfl, rfl, rfl, rfl, rfl⟩, ⟨hw.b, hw.pol⟩,
        scanSt_of_br hs rfl rfl rfl (Nat.le_refl _), rfl, rfl, ?_,
        Or.inl ⟨fun f => ?_, rfl, rfl, rfl, rfl⟩⟩
      · intro e he
        rw [List.mem_singleton.mp he]
        exact ⟨rfl, h0⟩
      · simp only [resume, hc, if_true, grow_refuse hn]
    | some n =>
      have hlt : r.br.cap < n := hw.pol _ _ _ (by omega) hn
      obtain ⟨hwb, hbase⟩ := reserve_winF hw.b (n - r.br.cap)
      have hlen : r.br.buf.length = (r.br.reserve (n - r.br.cap)).buf.length := by rw [reserve_buf]
      refine ⟨{ r with pol := { r.pol with hist := r.pol.hist ++ [r.br.cap] },
                       log := r.log ++ [(r.br.cap, some n)], br := r.br.reserve (n - r.br.cap) },
        [(r.br.cap, some n)],
        ⟨⟨rfl, congrArg Src.seekFails (reserve_src _ _)⟩, rfl, rfl, fun _ => ⟨hbase, Nat.le_of_eq hlen⟩⟩,
        fun hfull => ⟨rfl, rfl, rfl, reserve_cap_full _ _ hfull hlt⟩,
        ⟨hwb, hw.pol⟩, scanSt_of_br hs hbase rfl rfl (Nat.le_of_eq hlen),
        rfl, reserve_src _ _, ?_, Or.inr ⟨fun f => ?_, ?_, ?_⟩⟩
      · intro e he
        rw [List.mem_singleton.mp he]
        exact ⟨rfl, h0⟩
      · simp only [resume, hc, if_true, grow_answer hn (Nat.le_of_lt hlt), fillSearch]
        rfl
      · intro e he
        rw [List.mem_singleton.mp he]
        intro h; cases h
      · show (r.br.reserve _).buf.length < (r.br.reserve _).cap
        have hge := reserve_cap_ge r.br (n - r.br.cap)
        rw [← hlen]
        by_cases hfull : r.br.cap ≤ r.br.buf.length
        · rw [reserve_cap_full _ _ hfull hlt]
          omega
        · omega
  · have hmk : mk = true := by
      cases mk with
      | true => rfl
      | false => simp at hc
    have h0 : r.bp.start ≠ 0 := by
      intro h; rw [hmk, h] at hc; simp at hc
    obtain ⟨r1, hm, hw1, hs1, hst, hlen, hcap, hsrc, hl, hb, hlog, hpol⟩ := makeRoom_scanStF hw.b hs
    refine ⟨r1, [], ⟨⟨by rw [hpol], by rw [hsrc]⟩, hl, hb, fun h => by rw [hmk] at h; cases h⟩,
      fun _ => Growth.same hlog (by rw [hpol]) hcap,
      ⟨hw1, by rw [hpol]; exact hw.pol⟩, hs1, hst, hsrc, (fun e he => by cases he),
      Or.inr ⟨fun f => ?_, (fun e he => by cases he), by rw [hlen, hcap]; omega⟩⟩
    simp only [resume, hc, hm, fillSearch]
    rfl

/-- refill and search with room in the buffer: a read fails, or the record is found completely,
or the buffer is full again and the loop goes on -/
theorem fill_search {inp : List UInt8} {r : Reader} {s : Nat} (hw : WinR inp r)
    (hs : ScanSt inp r s) (hst : r.state = .incomplete) (hlt : r.br.buf.length < r.br.cap)
    (k : Reader → Reader × Res Bool) :
    ∃ r', WinR inp r' ∧ Kept false r r' ∧ r'.log = r.log ∧ r'.br.cap = r.br.cap ∧
      (NoFail r.br.src.script → NoFail r'.br.src.script) ∧
      ((∃ e, fillSearch k r = (r', .err (.io e)) ∧ ¬ NoFail r.br.src.script ∧ ScanSt inp r' s ∧
          r'.state = .incomplete) ∨
       (fillSearch k r = (r', .ok true) ∧ Eof inp r' ∧ RecDone inp r' s ∧
          (r'.state = .incomplete ∨ r'.state = .finished) ∧ r'.bp.start ≤ r'.searchPos) ∨
       (fillSearch k r = k r' ∧ ScanSt inp r' s ∧ r'.state = .incomplete ∧
          r'.br.cap ≤ r'.br.buf.length ∧ r'.br.buf.length ≤ r'.searchPos + 1 ∧
          r.br.src.cursor < r'.br.src.cursor)) := by
  unfold fillSearch
  rcases fill_winF hw.b with ⟨br2, n, hfill, hwb2, heof2, hbase2, hcap2, hlen2, hcur2, hn, hsf2⟩ |
    ⟨br2, e, hfill, hwb2, hbase2, hcap2, hlen2, -, hsf2⟩
  · obtain ⟨-, used, hstp⟩ := fillBuf_ok _ _ _ hfill
    have hs2 : ScanSt inp { r with br := br2 } s :=
      scanSt_of_br hs hbase2 rfl rfl (Nat.le.intro hlen2.symm)
    obtain ⟨r3, fnd, hsearch, hmono, hbr3, hpol3, hlog3, hl3, hb3, hstart3, htrue, hfalse⟩ :=
      search_spec (r := { r with br := br2 }) hwb2 heof2 hs2 (by
        show r.state ≠ .finished
        rw [hst]; intro h; cases h)
    replace hbr3 : r3.br = br2 := hbr3
    rw [hfill]
    simp only [hsearch]
    refine ⟨r3, ⟨by rw [hbr3]; exact hwb2, by rw [hpol3]; exact hw.pol⟩,
      ⟨⟨by rw [hpol3], by rw [hbr3]; exact hsf2⟩, hl3, hb3, fun _ =>
        ⟨by show baseB r3.br = _; rw [hbr3]; exact hbase2, by rw [hbr3]; exact Nat.le.intro hlen2.symm⟩⟩,
      hlog3, by rw [hbr3]; exact hcap2,
      fun hnf => by rw [hbr3]; exact noFail_suffix (hstp.script ▸ hnf), Or.inr ?_⟩
    cases fnd with
    | true =>
      obtain ⟨hdone, hstate⟩ := htrue rfl
      refine Or.inl ⟨rfl, by unfold Eof; rw [hbr3]; exact heof2, hdone, ?_, ?_⟩
      · rcases hstate with h | h
        · left; rw [h]; exact hst
        · right; exact h
      · rw [hstart3]
        exact Nat.le_trans hs.start_le hmono
    | false =>
      obtain ⟨hs3, hst3, hfull3, hnear3⟩ := hfalse rfl
      refine Or.inr ⟨rfl, hs3, hst3, by rw [hbr3]; exact hfull3, by rw [hbr3]; exact hnear3, ?_⟩
      have hfull3' : br2.cap ≤ br2.buf.length := hfull3
      rw [hbr3]
      omega
  · obtain ⟨used, rest, m, hsc, -, hrest, -⟩ := fillBuf_error _ _ _ hfill
    have hnf : ¬ NoFail r.br.src.script := fun hnf => hnf (.fail e) (by rw [hsc]; simp) e rfl
    rw [hfill]
    exact ⟨{ r with br := br2 }, ⟨hwb2, hw.pol⟩,
      ⟨⟨rfl, hsf2⟩, rfl, rfl, fun _ => ⟨hbase2, hlen2⟩⟩, rfl, hcap2, fun h => absurd h hnf,
      Or.inl ⟨e, rfl, hnf, scanSt_of_br hs hbase2 rfl rfl hlen2, hst⟩⟩

/-- how a search for the record that starts at `s`, taken up in `r`, ends: the record has been found
completely, with the reader in state `st` or `finished`; or the policy refused or a refill failed,
and the record is still pending -/
def SearchOut (inp : List UInt8) (s : Nat) (st : State) (r r' : Reader) (res : Res Bool)
    (new : List (Nat × Option Nat)) : Prop :=
  (res = .ok true ∧ (∀ e ∈ new, e.2 ≠ none) ∧ Eof inp r' ∧ RecDone inp r' s ∧
      (r'.state = st ∨ r'.state = .finished) ∧ r'.bp.start ≤ r'.searchPos) ∨
  (ScanSt inp r' s ∧ r'.state = .incomplete ∧
      (Refused r res new ∨ ∃ k, res = .err (.io k) ∧ ¬ NoFail r.br.src.script))

/-- `new` is what the policy log gains; it describes the capacities, and only requests for a record
that does not fit, if the loop starts as `search` leaves it: with a full buffer searched up to its
last byte. -/
theorem resume_gen {inp : List UInt8} (mk : Bool) : ∀ (fuel : Nat) (r : Reader) (s : Nat),
    WinR inp r → ScanSt inp r s → r.state = .incomplete → inp.length - r.br.src.cursor < fuel →
    ∃ r' res new, resume fuel mk r = (r', res) ∧ Kept mk r r' ∧ WinR inp r' ∧
      (NoFail r.br.src.script → NoFail r'.br.src.script) ∧
      (r.br.cap ≤ r.br.buf.length → r.br.buf.length ≤ r.searchPos + 1 →
        Growth r r' new ∧ (mk = true → ∀ e ∈ new, e.1 < recExtent inp s + 1) ∧
        (res = .err .bufferLimit →
          r'.br.cap ≤ r'.br.buf.length ∧ r'.br.buf.length ≤ r'.searchPos + 1)) ∧
      SearchOut inp s .incomplete r r' res new := by
  intro fuel
  induction fuel with
  | zero => intro r s _ _ _ h; omega
  | succ f ih =>
    intro r s hw hs hst hfuel
    obtain ⟨r1, pre, hk1, hg1, hw1, hs1, hst1, hsrc1, hU, hcase⟩ := resume_step1 mk hw hs
    have hbound : mk = true → r.br.cap ≤ r.br.buf.length → r.br.buf.length ≤ r.searchPos + 1 →
        ∀ e ∈ pre, e.1 < recExtent inp s + 1 := by
      intro hm hfull hnear e he
      rw [(hU e he).1]
      exact unfit_of_full hw.b hs ((hU e he).2 hm) hfull hnear
    rcases hcase with ⟨hres, hpre, hrefuse, hbr1, hsp1⟩ | ⟨hres, hN, hlt1⟩
    · have hcap3 := hw.b.cap_ge
      exact ⟨r1, _, pre, hres f, hk1, hw1, by rw [hsrc1]; exact id,
        fun hfull hnear => ⟨hg1 hfull, fun hm => hbound hm hfull hnear,
          fun _ => by rw [hbr1, hsp1]; exact ⟨hfull, hnear⟩⟩,
        Or.inr ⟨hs1, hst1.trans hst, Or.inl ⟨rfl, ⟨[], _, hpre⟩, r.pol.hist, r.br.cap, by omega,
          hrefuse⟩⟩⟩
    · obtain ⟨r3, hw3, hk3, hlog3, hcap3, hnf3, hcase⟩ :=
        fill_search hw1 hs1 (hst1.trans hst) hlt1 (resume f mk)
      rw [hsrc1] at hnf3 hcase
      have hk : Kept mk r r3 := hk1.trans hk3.of_false
      have hg3 : r.br.cap ≤ r.br.buf.length → Growth r r3 pre := by
        intro h
        have := (hg1 h).trans hN (Growth.same hlog3 hk3.polf hcap3)
        rwa [List.append_nil] at this
      rw [hres f]
      rcases hcase with ⟨k, hx, hnf, hs3, hst3⟩ | ⟨hx, he3, hd3, hstate3, hsp3⟩ |
        ⟨hx, hs3, hst3, hfull3, hnear3, hcur3⟩
      · exact ⟨r3, _, pre, hx, hk, hw3, hnf3,
          fun hfull hnear => ⟨hg3 hfull, fun hm => hbound hm hfull hnear, fun h => by cases h⟩,
          Or.inr ⟨hs3, hst3, Or.inr ⟨k, rfl, hnf⟩⟩⟩
      · exact ⟨r3, _, pre, hx, hk, hw3, hnf3,
          fun hfull hnear => ⟨hg3 hfull, fun hm => hbound hm hfull hnear, fun h => by cases h⟩,
          Or.inl ⟨rfl, hN, he3, hd3, hstate3, hsp3⟩⟩
      · have hcl := hw3.b.cur_le
        obtain ⟨r', res, new', hres', hk', hw', hnf', hF', hcase'⟩ :=
          ih r3 s hw3 hs3 hst3 (by omega)
        obtain ⟨hg', hbound', hlim'⟩ := hF' hfull3 hnear3
        refine ⟨r', res, pre ++ new', hx.trans hres', hk.trans hk', hw', fun h => hnf' (hnf3 h),
          fun hfull hnear => ⟨(hg3 hfull).trans hN hg', fun hm e he =>
            (List.mem_append.mp he).elim (hbound hm hfull hnear e) (hbound' hm e), hlim'⟩, ?_⟩
        rcases hcase' with ⟨rfl, hN', rest⟩ | ⟨hs', hst', hrest⟩
        · exact Or.inl ⟨rfl, fun e he => (List.mem_append.mp he).elim (hN e) (hN' e), rest⟩
        · refine Or.inr ⟨hs', hst', ?_⟩
          rcases hrest with ⟨rfl, ⟨p, c, hp⟩, h, c', hc1, hrf⟩ | ⟨k, rfl, hnf⟩
          · exact Or.inl ⟨rfl, ⟨pre ++ p, c, by rw [hp, List.append_assoc]⟩, h, c', hc1,
              by rw [← hk.polf]; exact hrf⟩
          · exact Or.inr ⟨k, rfl, fun hn => hnf (hnf3 hn)⟩

end Hist

theorem resume_spec {inp : List UInt8} : ∀ (fuel : Nat) (r : Reader) (s : Nat),
    Win inp r → ScanSt inp r s → r.state = .incomplete → r.br.cap ≤ r.br.buf.length →
    r.br.buf.length ≤ r.searchPos + 1 →
    inp.length - r.br.src.cursor < fuel →
    ∃ r' new, Growth r r' new ∧ (∀ e ∈ new, e.1 < recExtent inp s + 1) ∧
      ((resume fuel true r = (r', .ok true) ∧ (∀ e ∈ new, e.2 ≠ none) ∧
          Win inp r' ∧ Eof inp r' ∧ RecDone inp r' s ∧
          r'.line = r.line ∧ r'.byte = r.byte ∧ (r'.state = .incomplete ∨ r'.state = .finished)) ∨
       (resume fuel true r = (r', .err .bufferLimit) ∧ Refused r (.err .bufferLimit) new)) := by
  intro fuel r s hw hs hst hfull hnear hfuel
  obtain ⟨r', res, new, hres, hk, hw', hnf', hF, hcase⟩ :=
    resume_gen true fuel r s (.ofWin hw) hs hst hfuel
  obtain ⟨hg, hbound, -⟩ := hF hfull hnear
  refine ⟨r', new, hg, hbound rfl, ?_⟩
  rcases hcase with ⟨rfl, hN, he, hd, hstate, -⟩ | ⟨-, -, ⟨rfl, hlast, hrefuse⟩ | ⟨k, -, hnf⟩⟩
  · exact Or.inl ⟨hres, hN, ⟨hw'.b.toB (hnf' hw.b.nofail), hw'.pol⟩, he, hd, hk.line, hk.byte, hstate⟩
  · exact Or.inr ⟨hres, rfl, hlast, hrefuse⟩
  · exact absurd hw.b.nofail hnf

/-! ## second half of `next` -/

theorem Hist.recDone_state {inp : List UInt8} {r : Reader} {s : Nat} (h : RecDone inp r s)
    (hst : r.state ≠ .finished) (st : State) (hst' : st ≠ .finished) :
    RecDone inp { r with state := st } s := by
  refine ⟨h.start_eq, h.pos_le, h.fin, ?_, h.nxt⟩
  constructor
  · intro h'; exact absurd h' hst'
  · intro h'; exact absurd (h.st.mpr h') hst

theorem recDone_parsing {inp : List UInt8} {r : Reader} {s : Nat} (h : RecDone inp r s)
    (hst : r.state ≠ .finished) : RecDone inp { r with state := .parsing } s :=
  Hist.recDone_state h hst .parsing (by intro h; cases h)

/-- the second half of `next` from a pending record, for an arbitrary script: as `resume_gen`, with
the record shown in state `parsing`.  A reader that enters in state `incomplete` has to be as
`search` leaves it for `new` to describe the capacities. -/
theorem Hist.nextCont_gen {inp : List UInt8} {r : Reader} {s fuel : Nat} (hw : WinR inp r)
    (hs : ScanSt inp r s) (hst : (r.state = .parsing ∧ Eof inp r) ∨ r.state = .incomplete)
    (hfuel : inp.length < fuel) :
    ∃ r' res new, nextCont fuel r = (r', res) ∧ Kept true r r' ∧ WinR inp r' ∧
      (NoFail r.br.src.script → NoFail r'.br.src.script) ∧
      ((r.state = .incomplete → r.br.cap ≤ r.br.buf.length ∧ r.br.buf.length ≤ r.searchPos + 1) →
        Growth r r' new ∧ (∀ e ∈ new, e.1 < recExtent inp s + 1) ∧
        (res = .err .bufferLimit →
          r'.br.cap ≤ r'.br.buf.length ∧ r'.br.buf.length ≤ r'.searchPos + 1)) ∧
      SearchOut inp s .parsing r r' res new := by
  -- the search is being resumed
  have hinc : ∀ r1 : Reader, WinR inp r1 → ScanSt inp r1 s → r1.state = .incomplete →
      ∃ r' res new, Fault.nextTail fuel r1 = (r', res) ∧ Kept true r1 r' ∧ WinR inp r' ∧
        (NoFail r1.br.src.script → NoFail r'.br.src.script) ∧
        (r1.br.cap ≤ r1.br.buf.length → r1.br.buf.length ≤ r1.searchPos + 1 →
          Growth r1 r' new ∧ (∀ e ∈ new, e.1 < recExtent inp s + 1) ∧
          (res = .err .bufferLimit →
            r'.br.cap ≤ r'.br.buf.length ∧ r'.br.buf.length ≤ r'.searchPos + 1)) ∧
        SearchOut inp s .parsing r1 r' res new := by
    intro r1 hw1 hs1 hst1
    obtain ⟨r2, res, new, hres, hk, hw2, hnf2, hF, hcase⟩ :=
      resume_gen true fuel r1 s hw1 hs1 hst1 (Nat.lt_of_le_of_lt (Nat.sub_le _ _) hfuel)
    have hF' : r1.br.cap ≤ r1.br.buf.length → r1.br.buf.length ≤ r1.searchPos + 1 →
        Growth r1 r2 new ∧ (∀ e ∈ new, e.1 < recExtent inp s + 1) ∧
        (res = .err .bufferLimit →
          r2.br.cap ≤ r2.br.buf.length ∧ r2.br.buf.length ≤ r2.searchPos + 1) := by
      intro hfull hnear
      obtain ⟨hg, hb, hl⟩ := hF hfull hnear
      exact ⟨hg, hb rfl, hl⟩
    rw [Fault.nextTail, if_pos hst1, hres]
    rcases hcase with ⟨rfl, hN, he2, hd2, hst2 | hst2, hsl2⟩ | ⟨hs2, hst2, hfail⟩
    · have hnf : r2.state ≠ .finished := by rw [hst2]; nofun
      exact ⟨{ r2 with state := .parsing }, _, new,
        by simp only [hnf, ne_eq, not_false_eq_true, if_true],
        ⟨⟨hk.polf, hk.seekFails⟩, hk.line, hk.byte, hk.ext⟩, ⟨hw2.b, hw2.pol⟩, hnf2,
        fun hfull hnear => (hF' hfull hnear).imp (fun hg => ⟨hg.log, hg.polf, hg.chain⟩) id,
        Or.inl ⟨rfl, hN, he2, recDone_parsing hd2 hnf, Or.inl rfl, hsl2⟩⟩
    · exact ⟨r2, _, new, by simp only [hst2, ne_eq, not_true_eq_false, if_false], hk, hw2, hnf2, hF',
        Or.inl ⟨rfl, hN, he2, hd2, Or.inr hst2, hsl2⟩⟩
    · refine ⟨r2, res, new, ?_, hk, hw2, hnf2, hF', Or.inr ⟨hs2, hst2, hfail⟩⟩
      rcases hfail with ⟨rfl, -⟩ | ⟨k, rfl, -⟩ <;> rfl
  rcases hst with ⟨hst, he⟩ | hst
  · obtain ⟨r1, fnd, hsearch, hmono, hbr1, hpol1, hlog1, hl1, hb1, hstart1, htrue, hfalse⟩ :=
      search_spec hw.b he hs (by rw [hst]; nofun)
    have hw1 : WinR inp r1 := ⟨by rw [hbr1]; exact hw.b, by rw [hpol1]; exact hw.pol⟩
    have hk1 : Kept true r r1 := ⟨⟨by rw [hpol1], by rw [hbr1]⟩, hl1, hb1, nofun⟩
    have hg1 : Growth r r1 [] := .same hlog1 (by rw [hpol1]) (by rw [hbr1])
    rw [Fault.nextCont_of_search_eq (by rw [hst]; nofun) hsearch]
    cases fnd with
    | true =>
      obtain ⟨hdone, hstate⟩ := htrue rfl
      have hst1 : r1.state = .parsing ∨ r1.state = .finished := hstate.imp (fun h => h.trans hst) id
      refine ⟨r1, .ok true, [], ?_, hk1, hw1, by rw [hbr1]; exact id, fun _ => ⟨hg1, nofun, nofun⟩,
        Or.inl ⟨rfl, nofun, by unfold Eof; rw [hbr1]; exact he, hdone, hst1,
          by rw [hstart1]; exact Nat.le_trans hs.start_le hmono⟩⟩
      rw [Fault.nextTail, if_neg (by rcases hst1 with h | h <;> rw [h] <;> nofun)]
    | false =>
      obtain ⟨hs1, hst1, hfull, hnear⟩ := hfalse rfl
      obtain ⟨r', res, new, hres, hk, hw', hnf', hF, hcase⟩ := hinc r1 hw1 hs1 hst1
      obtain ⟨hg, hrest⟩ := hF (by rw [hbr1]; exact hfull) (by rw [hbr1]; exact hnear)
      refine ⟨r', res, new, hres, hk1.trans hk, hw', by rw [← hbr1]; exact hnf',
        fun _ => ⟨by simpa using hg1.trans nofun hg, hrest⟩, ?_⟩
      rcases hcase with hok | ⟨hs', hst', href | ⟨k, hio, hnf⟩⟩
      · exact Or.inl hok
      · exact Or.inr ⟨hs', hst', Or.inl ⟨href.1, href.2.1, by rw [← hpol1]; exact href.2.2⟩⟩
      · exact Or.inr ⟨hs', hst', Or.inr ⟨k, hio, by rw [← hbr1]; exact hnf⟩⟩
  · rw [Fault.nextCont_of_incomplete hst]
    obtain ⟨r', res, new, hres, hk, hw', hnf', hF, hcase⟩ := hinc r hw hs hst
    exact ⟨r', res, new, hres, hk, hw', hnf', fun h => hF (h hst).1 (h hst).2, hcase⟩

theorem nextCont_spec {inp : List UInt8} {r : Reader} {s fuel : Nat} (hw : Win inp r)
    (he : Eof inp r) (hs : ScanSt inp r s) (hst : r.state = .parsing) (hfuel : inp.length < fuel) :
    ∃ r' new, Growth r r' new ∧ (∀ e ∈ new, e.1 < recExtent inp s + 1) ∧
      ((nextCont fuel r = (r', .ok true) ∧ (∀ e ∈ new, e.2 ≠ none) ∧
          Win inp r' ∧ Eof inp r' ∧ RecDone inp r' s ∧
          r'.line = r.line ∧ r'.byte = r.byte ∧ (r'.state = .parsing ∨ r'.state = .finished)) ∨
       (nextCont fuel r = (r', .err .bufferLimit) ∧ Refused r (.err .bufferLimit) new)) := by
  obtain ⟨r', res, new, hres, hk, hw', hnf', hF, hcase⟩ :=
    Hist.nextCont_gen (.ofWin hw) hs (Or.inl ⟨hst, he⟩) hfuel
  obtain ⟨hg, hun, -⟩ := hF (fun h => by rw [hst] at h; cases h)
  refine ⟨r', new, hg, hun, ?_⟩
  rcases hcase with ⟨rfl, hN, he', hd, hstate, -⟩ | ⟨-, -, ⟨rfl, hlast, hrefuse⟩ | ⟨k, -, hnf⟩⟩
  · exact Or.inl ⟨hres, hN, ⟨hw'.b.toB (hnf' hw.b.nofail), hw'.pol⟩, he', hd, hk.line, hk.byte, hstate⟩
  · exact Or.inr ⟨hres, rfl, hlast, hrefuse⟩
  · exact absurd hw.b.nofail hnf

end SeqIo.Fasta
