import SeqIoModel.Proofs.FastqStreamSearch
import SeqIoModel.Proofs.Fill
import SeqIoModel.Model.HistoryFq
/-!
# The window invariant and the outcomes of a completed search

`Win inp G r`: the buffer of `r` is the part of the input that ends at the cursor of the source.
`Good inp G r items` adds, per reader state, that `items` are the items S prescribes for what lies
ahead.  Both carry a proposition `G` = "the environment is ideal" (the policy never refuses, no read
and no seek fails): with `G := True` the results are S's items, with `G := False` nothing is assumed
of the environment and a result may also be an error of the environment (`EnvErr`).
-/

namespace SeqIo.Fastq
open SeqIo SeqIo.Spec SeqIo.WriteProofs SeqIo.FillProofs SeqIo.Fastq.Hist

/-- what S's item looks like to the caller -/
def obsOf : FqItem → Obs
  | .record r => .record r.head r.seq r.qual r.line r.byte
  | .err e _ _ => .error (specErr e)

theorem specObs_eq (inp : List UInt8) : specObs inp = (Spec.fastq inp).map obsOf := by
  unfold specObs
  congr 1

/-- what the reader needs from a policy: asked with a capacity ≥ 1 it never refuses and answers
more than it was passed (`PolOk` demands this for capacity 0 as well, which the doubling
built-in policies do not satisfy) -/
def PolGrows (p : Pol) : Prop :=
  ∀ (h : List Nat) (cur : Nat), 1 ≤ cur → ∃ n, p.f (h ++ [cur]) = some n ∧ cur < n

theorem PolOk.grows {p : Pol} (h : PolOk p) : PolGrows p := fun hist cur _ => h hist cur

theorem polGrows_std : PolGrows PolDesc.std.toPol := by
  intro h cur hc
  refine ⟨_, rfl, ?_⟩
  simp only [List.getLastD_eq_getLast?, List.getLast?_append, List.getLast?_singleton,
    Option.some_or, Option.getD_some]
  split <;> omega

theorem polGrows_doubleUntil (t : Nat) (ht : 1 ≤ t) : PolGrows (PolDesc.doubleUntil t).toPol := by
  intro h cur hc
  refine ⟨_, rfl, ?_⟩
  simp only [List.getLastD_eq_getLast?, List.getLast?_append, List.getLast?_singleton,
    Option.some_or, Option.getD_some]
  split <;> omega

def PolWf1 (p : Pol) : Prop :=
  ∀ (h : List Nat) (cur n : Nat), 1 ≤ cur → p.f (h ++ [cur]) = some n → cur < n

theorem PolGrows.wf1 {p : Pol} (h : PolGrows p) : PolWf1 p := by
  intro hist cur n hc hn
  obtain ⟨m, hm, hlt⟩ := h hist cur hc
  rw [hm] at hn
  cases hn
  exact hlt

theorem PolWf.wf1 {p : Pol} (h : PolWf p) : PolWf1 p := fun hist cur n _ hn => h hist cur n hn

/-- window invariant, valid in every state; `r.byte` is the input offset of buffer offset `pos0` -/
structure Win (inp : List UInt8) (G : Prop) (r : Reader) : Prop where
  inp_eq : r.br.src.inp = inp
  cur_le : r.br.src.cursor ≤ inp.length
  nofail : G → NoFail r.br.src.script
  polwf : PolWf1 r.pol
  polg : G → PolGrows r.pol
  cap3 : 3 ≤ r.br.cap
  len_le : r.br.buf.length ≤ r.br.cap
  len_cur : r.br.buf.length ≤ r.br.src.cursor
  full : inp.drop (r.br.src.cursor - r.br.buf.length) = r.br.buf ++ inp.drop r.br.src.cursor
  byte_pos : r.byte + r.br.buf.length = r.br.src.cursor + r.bp.pos0
  nosf : G → r.br.src.seekFails = []

/-- … and the current group starts inside the buffer (or at its end) -/
structure Base (inp : List UInt8) (G : Prop) (r : Reader) : Prop where
  toWin : Win inp G r
  pos0_le : r.bp.pos0 ≤ r.br.buf.length

theorem Base.cur_le {inp G r} (h : Base inp G r) : r.br.src.cursor ≤ inp.length := h.toWin.cur_le

theorem Base.byte_eq {inp G r} (h : Base inp G r) :
    r.byte + (r.br.buf.length - r.bp.pos0) = r.br.src.cursor := by
  have := h.toWin.byte_pos; have := h.pos0_le; omega

theorem Base.win {inp G r} (h : Base inp G r) :
    inp.drop r.byte = r.br.buf.drop r.bp.pos0 ++ inp.drop r.br.src.cursor := by
  have h1 := h.toWin.byte_pos
  have h2 := h.pos0_le
  have h3 := h.toWin.len_cur
  have : r.byte = (r.br.src.cursor - r.br.buf.length) + r.bp.pos0 := by omega
  rw [this, ← List.drop_drop, h.toWin.full, List.drop_append_of_le_length h2]

/-- a buffer that is not full means that the input is exhausted -/
def Eof (inp : List UInt8) (r : Reader) : Prop :=
  r.br.buf.length < r.br.cap → r.br.src.cursor = inp.length

/-- the items S prescribes from the group starting at `byte` (line `line`) on -/
def itemsAt (inp : List UInt8) (byte line : Nat) : List FqItem :=
  fqGo false (splitLF (inp.drop byte)) byte line

def IpOk (r : Reader) : Prop := ∀ ip, r.incompletePos = some ip → Scan r.br.buf r.bp ip

/-- reader states between API calls, with the items S prescribes for what lies ahead -/
def Good (inp : List UInt8) (G : Prop) (r : Reader) (items : List FqItem) : Prop :=
  match r.state with
  | .new => Win inp G r ∧ (G → r.br.buf = []) ∧ r.bp.pos0 = 0 ∧
      r.byte = 0 ∧ r.line = 1 ∧ r.incompletePos = none ∧ items = itemsAt inp 0 1
  | .finished => Win inp G r ∧ items = []
  | .positioned => Base inp G r ∧ Eof inp r ∧ IpOk r ∧ items = itemsAt inp r.byte r.line
  | .parsing => Base inp G r ∧ Eof inp r ∧ r.incompletePos = none ∧
      r.bp.pos0 ≤ r.bp.pos1 + 1 ∧ r.bp.pos1 + 1 ≤ r.br.buf.length ∧
      items = itemsAt inp (r.byte + (r.bp.pos1 + 1 - r.bp.pos0)) (r.line + 4)

/-- a reader that has finished (it can only be revived by a seek) -/
def Fin (inp : List UInt8) (G : Prop) (r : Reader) : Prop :=
  r.state = .finished ∧ Win inp G r

theorem good_win {inp G r its} (h : Good inp G r its) : Win inp G r := by
  unfold Good at h
  split at h
  · exact h.1
  · exact h.1
  · exact h.1.toWin
  · exact h.1.toWin

theorem good_inp {inp G r its} (h : Good inp G r its) : r.br.src.inp = inp := (good_win h).inp_eq

/-- errors that come from the environment, not from the input: a refusing policy, a failing
read -/
def EnvErr : Err → Prop
  | .bufferLimit => True
  | .io _ => True
  | _ => False

/-- the reader (in state `st`, or finished at the end of the input) shows the record `x` of S;
`its'` are the items after it.  A finished reader shows the rest of the input: four lines, the last
one without LF. -/
structure Shown (inp : List UInt8) (G : Prop) (st : State) (r : Reader) (x : FqRec)
    (its' : List FqItem) : Prop where
  win : Win inp G r
  eof : Eof inp r
  view : viewRec r.br.buf r.bp = some (recOf x)
  line_eq : x.line = r.line
  byte_eq : x.byte = r.byte
  p01 : r.bp.pos0 ≤ r.bp.pos1
  p1l : r.bp.pos1 ≤ r.br.buf.length
  rest : (r.state = st ∧ r.incompletePos = none ∧ r.bp.pos1 + 1 ≤ r.br.buf.length ∧
      its' = itemsAt inp (r.byte + (r.bp.pos1 + 1 - r.bp.pos0)) (r.line + 4) ∧
      nl4 (inp.drop r.byte) = some (r.bp.pos1 + 1 - r.bp.pos0)) ∨
    (r.state = .finished ∧ its' = [] ∧ (splitLF (inp.drop r.byte)).length = 4 ∧
      (inp.drop r.byte).length = r.bp.pos1 - r.bp.pos0)

/-- the result `x` of looking for the next record from a reader in state `st`, with the items `its`
of S ahead: S's first item – a record that the reader now shows, the end, S's error – or, in a
non-ideal environment, an error of the environment -/
inductive Found (inp : List UInt8) (G : Prop) (st : State) (its : List FqItem)
    (x : Reader × Res Bool) : Prop
  | record (hr : x.2 = .ok true) (rec : FqRec) (its' : List FqItem) (hi : its = .record rec :: its')
      (hsh : Shown inp G st x.1 rec its')
  | none (hr : x.2 = .ok false) (hi : its = []) (hfin : Fin inp G x.1)
  | err (e : FqErr) (b l : Nat) (hr : x.2 = .err (specErr e)) (hi : its = [.err e b l])
      (hfin : Fin inp G x.1)
  | env (e : Err) (hr : x.2 = .err e) (henv : EnvErr e) (hG : ¬ G) (hfin : Fin inp G x.1)

/-- `Win` reads the source without its seek counter, the buffer, the policy function and the
difference of `byte` and `pos0`; it survives a larger capacity -/
theorem Win.frame {inp G} {r r' : Reader} (h : Win inp G r)
    (hsrc : { r'.br.src with seekCount := r.br.src.seekCount } = r.br.src)
    (hbuf : r'.br.buf = r.br.buf) (hcap : r.br.cap ≤ r'.br.cap) (hpf : r'.pol.f = r.pol.f)
    (hb : r'.byte + r.bp.pos0 = r.byte + r'.bp.pos0) : Win inp G r' := by
  obtain ⟨a, b, c, d, e, f, g, i, w, k, z⟩ := h
  have hinp : r'.br.src.inp = r.br.src.inp := (congrArg Src.inp hsrc :)
  have hcur : r'.br.src.cursor = r.br.src.cursor := (congrArg Src.cursor hsrc :)
  have hscr : r'.br.src.script = r.br.src.script := (congrArg Src.script hsrc :)
  have hsf : r'.br.src.seekFails = r.br.src.seekFails := (congrArg Src.seekFails hsrc :)
  refine ⟨hinp.trans a, hcur ▸ b, hscr ▸ c, ?_, fun hG => ?_, Nat.le_trans f hcap,
    hbuf ▸ Nat.le_trans g hcap, by rw [hbuf, hcur]; exact i, by rw [hbuf, hcur]; exact w,
    by rw [hbuf, hcur]; omega, hsf ▸ z⟩
  · unfold PolWf1; rw [hpf]; exact d
  · unfold PolGrows; rw [hpf]; exact e hG

theorem Win.congr {inp G} {r r' : Reader} (h : Win inp G r) (hbr : r'.br = r.br)
    (hpol : r'.pol = r.pol) (hb : r'.byte + r.bp.pos0 = r.byte + r'.bp.pos0) : Win inp G r' :=
  h.frame (by rw [hbr]) (by rw [hbr]) (by rw [hbr]; exact Nat.le_refl _) (by rw [hpol]) hb

theorem Win.set_bp {inp G r} (h : Win inp G r) (bp' : BufPos)
    (ip' : Option RecordPos) (hp : bp'.pos0 = r.bp.pos0) :
    Win inp G { r with bp := bp', incompletePos := ip' } :=
  h.congr rfl rfl (congrArg (r.byte + ·) hp.symm)

theorem Base.set_bp {inp G r} (h : Base inp G r) (bp' : BufPos)
    (ip' : Option RecordPos) (hp : bp'.pos0 = r.bp.pos0) :
    Base inp G { r with bp := bp', incompletePos := ip' } :=
  ⟨h.toWin.set_bp bp' ip' hp, hp ▸ h.pos0_le⟩

theorem Win.set_state {inp G r} (h : Win inp G r) (st : State) :
    Win inp G { r with state := st } :=
  h.congr rfl rfl rfl

theorem Base.set_state {inp G r} (h : Base inp G r) (st : State) :
    Base inp G { r with state := st } := ⟨h.toWin.set_state st, h.pos0_le⟩

/-- the reader after `increment_record` -/
def stepOver (r : Reader) : Reader :=
  { r with byte := r.byte + (r.bp.pos1 + 1 - r.bp.pos0), line := r.line + 4,
           bp := { r.bp with pos0 := r.bp.pos1 + 1 } }

theorem incrementRecord_eq (r : Reader) (h : r.bp.pos0 ≤ r.bp.pos1 + 1) :
    incrementRecord r = some (stepOver r) := by
  simp only [incrementRecord, csub_of_le h, stepOver]

theorem Win.stepOver {inp G r} (h : Win inp G r) (h01 : r.bp.pos0 ≤ r.bp.pos1 + 1) :
    Win inp G (stepOver r) :=
  h.congr rfl rfl (by simp only [Fastq.stepOver]; omega)

theorem wrapS_wrapV (x : Reader × Res Unit) :
    wrapS (wrapV x) = match x with
      | (r, .ok ()) => (r, .ok true)
      | (r, .err e) => (r, .err e)
      | (r, .panic) => (r, .panic)
      | (r, .fuel) => (r, .fuel) := by
  rcases x with ⟨r, (_ | _ | _ | _)⟩ <;> rfl

theorem wrapS_wrapV_validate (r : Reader) : wrapS (wrapV (validate r)) = validated r := by
  unfold validated
  generalize validate r = v
  rcases v with ⟨r', (_ | _ | _ | _)⟩ <;> rfl

theorem Found4.rec4 {buf : List UInt8} {bp : BufPos} (h : Found4 buf bp) : Rec4 buf bp := by
  obtain ⟨a, b, c, d⟩ := h
  have := nl_lt d
  have := nl_le d
  exact Pre.rec4 ⟨a, b, c⟩ (by omega) (by omega)

theorem Found4.end_le {buf : List UInt8} {bp : BufPos} (h : Found4 buf bp) :
    bp.pos1 + 1 ≤ buf.length :=
  nl_le h.2.2.2

theorem Found4.split {buf : List UInt8} {bp : BufPos} (h : Found4 buf bp) (e : List UInt8) :
    splitLF (buf.drop bp.pos0 ++ e) =
      hP buf bp :: sP buf bp :: pP buf bp :: qP buf bp :: splitLF (buf.drop (bp.pos1 + 1) ++ e) := by
  obtain ⟨a, b, c, d⟩ := h
  rw [splitLF_nl_some e a, splitLF_nl_some e b, splitLF_nl_some e c, splitLF_nl_some e d]
  rfl

theorem Found4.lens {buf : List UInt8} {bp : BufPos} (h : Found4 buf bp) :
    (hP buf bp).length + (sP buf bp).length + (pP buf bp).length + (qP buf bp).length + 4 =
      bp.pos1 + 1 - bp.pos0 := by
  obtain ⟨a, b, c, d⟩ := h
  have a := nl_piece_length a
  have b := nl_piece_length b
  have c := nl_piece_length c
  have d := nl_piece_length d
  rw [hP, sP, pP, qP]
  omega

theorem splitLF_nl4_some {t : List UInt8} {d : Nat} (h : nl4 t = some d) :
    ∃ h' s p q, splitLF t = h' :: s :: p :: q :: splitLF (t.drop d) ∧
      h'.length + s.length + p.length + q.length + 4 = d ∧ d ≤ t.length := by
  obtain ⟨a, b, c, ha, hb, hc, hd⟩ := nl4_some h
  have hd' := nl_some hd
  have hf : Found4 t { pos0 := 0, pos1 := d - 1, seq := a, sep := b, qual := c } := by
    refine ⟨ha, hb, hc, ?_⟩
    simp only
    rw [hd]
    congr 1
    omega
  have h1 := hf.split []
  have h2 := hf.lens
  simp only [List.drop_zero, List.append_nil] at h1
  have e1 : d - 1 + 1 = d := by omega
  rw [e1] at h1
  refine ⟨_, _, _, _, h1, ?_, hd'.2.1⟩
  rw [h2]
  simp only
  omega

theorem viewRec_of_views {buf : List UInt8} {bp : BufPos} {x : FqRec}
    (h1 : head buf bp = some x.head) (h2 : seq buf bp = some x.seq)
    (h3 : qual buf bp = some x.qual) : viewRec buf bp = some (recOf x) := by
  simp only [viewRec, h1, h2, h3, recOf]

/-! ## what `validate` leaves alone -/

/-- `validate` changes nothing but the state, and never reports `BufferLimit` -/
theorem validate_frame (r : Reader) :
    (∃ st, (validate r).1 = { r with state := st }) ∧ (validate r).2 ≠ .err .bufferLimit := by
  have leaf : ∀ (st : State) (o : Res Unit), o ≠ .err .bufferLimit →
      (∃ st', (({ r with state := st }, o) : Reader × Res Unit).1 = { r with state := st' }) ∧
        (({ r with state := st }, o) : Reader × Res Unit).2 ≠ .err .bufferLimit :=
    fun st o h => ⟨⟨st, rfl⟩, h⟩
  unfold validate
  cases r.br.buf[r.bp.pos0]? with
  | none => exact leaf r.state _ nofun
  | some c =>
  dsimp only
  by_cases hc : c ≠ AT
  · rw [if_pos hc]; cases getErrorPos _ 0 false <;> exact leaf .finished _ nofun
  rw [if_neg hc]
  cases r.br.buf[r.bp.sep]? with
  | none => exact leaf r.state _ nofun
  | some c2 =>
  dsimp only
  by_cases hc2 : c2 ≠ PLUS
  · rw [if_pos hc2]; cases getErrorPos _ 2 true <;> exact leaf .finished _ nofun
  rw [if_neg hc2]
  cases csub r.bp.pos1 r.bp.qual with
  | none => exact leaf r.state _ nofun
  | some q =>
  cases csub r.bp.sep r.bp.seq with
  | none => exact leaf r.state _ nofun
  | some s =>
  dsimp only
  by_cases hs : s ≠ q + 1
  · rw [if_pos hs]
    cases seq r.br.buf r.bp with
    | none => exact leaf r.state _ nofun
    | some sq =>
    cases qual r.br.buf r.bp with
    | none => exact leaf r.state _ nofun
    | some ql =>
    dsimp only
    by_cases hl : sq.length ≠ ql.length
    · rw [if_pos hl]; cases getErrorPos _ 0 true <;> exact leaf .finished _ nofun
    · rw [if_neg hl]; exact leaf r.state _ nofun
  · rw [if_neg hs]; exact leaf r.state _ nofun

/-- all four lines are in the buffer: `validate` decides as S does, the two outcomes with the
resulting reader as equations -/
theorem complete_cases (inp : List UInt8) (G : Prop) (r : Reader) (hb : Base inp G r)
    (he : Eof inp r) (hip : r.incompletePos = none) (hf : Found4 r.br.buf r.bp) :
    (∃ x its', itemsAt inp r.byte r.line = .record x :: its' ∧ validated r = (r, .ok true) ∧
      Shown inp G r.state r x its') ∨
    (∃ e b l, itemsAt inp r.byte r.line = [.err e b l] ∧
      validated r = ({ r with state := .finished }, .err (specErr e))) := by
  have hrec := hf.rec4
  have hsplit := hf.split (inp.drop r.br.src.cursor)
  have hlens := hf.lens
  have hv := validate_spec r hrec
  have h1 : r.bp.pos1 + 1 ≤ r.br.buf.length := hf.end_le
  have hne := splitLF_ne_nil (r.br.buf.drop (r.bp.pos1 + 1) ++ inp.drop r.br.src.cursor)
  have hp01 : r.bp.pos0 ≤ r.bp.pos1 := Nat.le_of_lt hrec.p01
  have hnext : inp.drop (r.byte + (r.bp.pos1 + 1 - r.bp.pos0)) =
      r.br.buf.drop (r.bp.pos1 + 1) ++ inp.drop r.br.src.cursor := by
    rw [← List.drop_drop, hb.win, List.drop_append_of_le_length (by simp; omega), List.drop_drop]
    congr 2
    omega
  unfold itemsAt
  rw [hb.win, hsplit, fqGo_four _ _ _ _ _ _ hne]
  generalize fqGroup false (hP r.br.buf r.bp) (sP r.br.buf r.bp) (pP r.br.buf r.bp)
    (qP r.br.buf r.bp) r.byte r.line = g at hv
  cases g with
  | record x =>
    obtain ⟨v1, v2, v3, v4, v5, v6⟩ := hv
    refine Or.inl ⟨x, _, rfl, by simp only [validated, v1], ?_⟩
    refine ⟨hb.toWin, he, viewRec_of_views v2 v3 v4, v6, v5, hp01, by omega,
      Or.inl ⟨rfl, hip, h1, ?_, ?_⟩⟩
    · unfold itemsAt
      rw [hnext]
      congr 1
      omega
    · obtain ⟨f1, f2, f3, f4⟩ := hf
      have g1 := nl_some f1
      have g2 := nl_some f2
      have g3 := nl_some f3
      have d1 := nl_append (inp.drop r.br.src.cursor) (nl_drop_some r.bp.pos0 (Nat.le_refl _) f1)
      have d2 := nl_append (inp.drop r.br.src.cursor)
        (nl_drop_some r.bp.pos0 (show r.bp.pos0 ≤ r.bp.seq by omega) f2)
      have d3 := nl_append (inp.drop r.br.src.cursor)
        (nl_drop_some r.bp.pos0 (show r.bp.pos0 ≤ r.bp.sep by omega) f3)
      have d4 := nl_append (inp.drop r.br.src.cursor)
        (nl_drop_some r.bp.pos0 (show r.bp.pos0 ≤ r.bp.qual by omega) f4)
      rw [Nat.sub_self] at d1
      rw [hb.win]
      simp only [nl4, d1, d2, d3, d4, Option.bind_some]
  | err e b l =>
    obtain ⟨v1, v2, v3⟩ := hv
    exact Or.inr ⟨e, b, l, rfl, by simp only [validated, v1]⟩

theorem specErr_ne_bl (e : FqErr) : specErr e ≠ .bufferLimit := by
  cases e <;> nofun

/-- all four lines are in the buffer: `validate` decides as S does, changes nothing but the state
and never reports `BufferLimit` -/
theorem complete_found (inp : List UInt8) (G : Prop) (r : Reader) (hb : Base inp G r)
    (he : Eof inp r) (hip : r.incompletePos = none) (hf : Found4 r.br.buf r.bp) :
    Found inp G r.state (itemsAt inp r.byte r.line) (validated r) ∧
      (∃ st, (validated r).1 = { r with state := st }) ∧ (validated r).2 ≠ .err .bufferLimit := by
  rcases complete_cases inp G r hb he hip hf with ⟨x, its', hi, hv, hs⟩ | ⟨e, b, l, hi, hv⟩
  · rw [hi, hv]
    exact ⟨.record rfl x its' rfl hs, ⟨_, rfl⟩, nofun⟩
  · rw [hi, hv]
    exact ⟨.err e b l rfl rfl ⟨rfl, hb.toWin.set_state _⟩, ⟨_, rfl⟩,
      fun h => specErr_ne_bl e (Out.err.inj h)⟩

/-! ## end of input -/

/-- `check_end` in the quality line: `validate`, then the comparison of the trimmed lengths -/
def checkEndQ (r : Reader) : Reader × Res Bool :=
  match validate r with
  | (r, .ok ()) =>
    match seq r.br.buf r.bp, qual r.br.buf r.bp with
    | some sq, some ql =>
      if sq.length ≠ ql.length then
        match getErrorPos r 0 true with
        | none => (r, .panic)
        | some p => (r, .err (.unequalLengths sq.length ql.length p))
      else (r, .ok true)
    | _, _ => (r, .panic)
  | (r, .err e) => (r, .err e)
  | (r, .panic) => (r, .panic)
  | (r, .fuel) => (r, .fuel)

theorem checkEnd_qual (r : Reader) :
    checkEnd r .qual = checkEndQ { r with bp := { r.bp with pos1 := r.br.buf.length } } := by
  simp only [checkEnd, if_true, checkEndQ]
  generalize validate _ = v
  rcases v with ⟨r', (_ | _ | _ | _)⟩ <;> rfl

/-- three lines and an unterminated fourth one, `pos1` set to the end of the buffer -/
theorem eofq_found (inp : List UInt8) (G : Prop) (st : State) (r : Reader) (hb : Base inp G r)
    (he : Eof inp r) (hcur : r.br.src.cursor = inp.length) (hst : r.state = .finished)
    (hpre : Pre r.br.buf r.bp .qual) (d : nl r.br.buf r.bp.qual = none)
    (hp1 : r.bp.pos1 = r.br.buf.length) :
    Found inp G st (itemsAt inp r.byte r.line) (checkEndQ r) := by
  have hrec : Rec4 r.br.buf r.bp := hpre.rec4 (hp1 ▸ nl_le hpre.2.2) (Nat.le_of_eq hp1)
  obtain ⟨a, b, c⟩ := hpre
  have hv := validate_spec r hrec
  have hge : getErrorPos r 0 true = some { line := r.line, id := errId (hP r.br.buf r.bp) } :=
    getErrorPos_true r 0 hrec.h1 (nl_le a)
  have hq : qP r.br.buf r.bp = r.br.buf.drop r.bp.qual := by
    simp only [qP, piece, hp1, Nat.add_sub_cancel, List.take_length]
  have hsplit : splitLF (inp.drop r.byte) =
      [hP r.br.buf r.bp, sP r.br.buf r.bp, pP r.br.buf r.bp, qP r.br.buf r.bp] := by
    rw [hb.win, hcur, List.drop_length, List.append_nil, splitLF_nl_some' a, splitLF_nl_some' b,
      splitLF_nl_some' c, splitLF_nl_none d, hq]
    rfl
  have hfin : Fin inp G r := ⟨hst, hb.toWin⟩
  unfold itemsAt
  rw [hsplit, fqGo_three, fqGroup_eof]
  generalize fqGroup false (hP r.br.buf r.bp) (sP r.br.buf r.bp) (pP r.br.buf r.bp)
    (qP r.br.buf r.bp) r.byte r.line false = g at hv
  cases g with
  | record x =>
    obtain ⟨v1, v2, v3, v4, v5, v6⟩ := hv
    simp only [checkEndQ, v1, v3, v4, hge]
    by_cases hl : x.seq.length ≠ x.qual.length
    · rw [if_pos hl, if_pos hl]
      exact .err _ _ _ rfl rfl hfin
    · rw [if_neg hl, if_neg hl]
      refine .record rfl x [] rfl ?_
      dsimp only
      refine ⟨hb.toWin, he, viewRec_of_views v2 v3 v4, v6, v5, ?_, hrec.h5,
        Or.inr ⟨hst, rfl, ?_, ?_⟩⟩
      · exact Nat.le_of_lt hrec.p01
      · rw [hsplit]; rfl
      · rw [hb.win, hcur, List.drop_length, List.append_nil, List.length_drop, hp1]
  | err e b l =>
    obtain ⟨v1, v2, v3⟩ := hv
    simp only [checkEndQ, v1]
    exact .err e b l rfl rfl ⟨rfl, hb.toWin.set_state _⟩

theorem checkEnd_few (r : Reader) (ip : RecordPos) (hne : ip ≠ .qual)
    (h0 : r.bp.pos0 ≤ r.br.buf.length) (ep : ErrPos)
    (hep : getErrorPos r ip.ord (decide (ip.ord > RecordPos.head.ord)) = some ep) :
    checkEnd r ip =
      if (splitLF (r.br.buf.drop r.bp.pos0)).all blank then (r, .ok false)
      else (r, .err (.unexpectedEnd ep)) := by
  simp only [checkEnd, hne, if_false, h0, if_true, hep]
  rfl

/-- fewer than three complete lines -/
theorem eof_few_found (inp : List UInt8) (G : Prop) (st : State) (r : Reader) (hb : Base inp G r)
    (_he : Eof inp r) (hcur : r.br.src.cursor = inp.length) (hst : r.state = .finished)
    (ip : RecordPos) (hne : ip ≠ .qual) (hsc : Scan r.br.buf r.bp ip) :
    Found inp G st (itemsAt inp r.byte r.line) (checkEnd r ip) := by
  have hwin : inp.drop r.byte = r.br.buf.drop r.bp.pos0 := by
    rw [hb.win, hcur, List.drop_length, List.append_nil]
  have hfin : Fin inp G r := ⟨hst, hb.toWin⟩
  -- the pieces and the error position in each case
  have key : ∃ ps ep, splitLF (r.br.buf.drop r.bp.pos0) = ps ∧ ps.length ≤ 3 ∧
      getErrorPos r ip.ord (decide (ip.ord > RecordPos.head.ord)) = some ep ∧
      ep = { line := r.line + (ps.length - 1),
             id := if ps.length - 1 ≥ 1 then errId (ps.headD []) else none } := by
    cases ip with
    | qual => exact absurd rfl hne
    | head =>
      have d : nl r.br.buf r.bp.pos0 = none := hsc.2
      refine ⟨_, _, splitLF_nl_none d, by simp, ?_, rfl⟩
      simp [RecordPos.ord, getErrorPos_false]
    | seq =>
      obtain ⟨a, d⟩ := hsc
      have a : nl r.br.buf r.bp.pos0 = some r.bp.seq := a
      simp only [lastPos] at d
      have a' := nl_some a
      have hs : splitLF (r.br.buf.drop r.bp.pos0) = [hP r.br.buf r.bp, r.br.buf.drop r.bp.seq] := by
        rw [splitLF_nl_some' a, splitLF_nl_none d]
        rfl
      refine ⟨_, _, hs, by simp, ?_, rfl⟩
      simp [RecordPos.ord, getErrorPos_true r 1 a'.1 a'.2.1]
    | sep =>
      obtain ⟨⟨a, b⟩, d⟩ := hsc
      simp only [lastPos] at d
      have a' := nl_some a
      have hs : splitLF (r.br.buf.drop r.bp.pos0) =
          [hP r.br.buf r.bp, sP r.br.buf r.bp, r.br.buf.drop r.bp.sep] := by
        rw [splitLF_nl_some' a, splitLF_nl_some' b, splitLF_nl_none d]
        rfl
      refine ⟨_, _, hs, by simp, ?_, rfl⟩
      simp [RecordPos.ord, getErrorPos_true r 2 a'.1 a'.2.1]
  obtain ⟨ps, ep, hps, hlen, hep, hepv⟩ := key
  rw [checkEnd_few r ip hne hb.pos0_le ep hep, hps]
  unfold itemsAt
  rw [hwin, hps, fqGo_few false ps hlen]
  by_cases hbl : ps.all blank = true
  · rw [if_pos hbl, if_pos hbl]
    exact .none rfl rfl hfin
  · rw [if_neg hbl, if_neg hbl]
    refine .err _ _ _ ?_ rfl hfin
    simp only [specErr, hepv]

theorem checkEndQ_frame (r : Reader) :
    (∃ st, (checkEndQ r).1 = { r with state := st }) ∧ (checkEndQ r).2 ≠ .err .bufferLimit := by
  obtain ⟨⟨st, h1⟩, h2⟩ := validate_frame r
  unfold checkEndQ
  rcases hv : validate r with ⟨r', (_ | e | _ | _)⟩ <;> rw [hv] at h1 h2 <;> dsimp only at h1 h2 ⊢
  · have leaf : ∀ o : Res Bool, o ≠ .err .bufferLimit →
        (∃ st', ((r', o) : Reader × Res Bool).1 = { r with state := st' }) ∧
          ((r', o) : Reader × Res Bool).2 ≠ .err .bufferLimit := fun o h => ⟨⟨st, h1⟩, h⟩
    cases seq r'.br.buf r'.bp with
    | none => exact leaf _ nofun
    | some sq =>
    cases qual r'.br.buf r'.bp with
    | none => exact leaf _ nofun
    | some ql =>
    dsimp only
    by_cases hl : sq.length ≠ ql.length
    · rw [if_pos hl]; cases getErrorPos r' 0 true <;> exact leaf _ nofun
    · rw [if_neg hl]; exact leaf _ nofun
  · exact ⟨⟨st, h1⟩, fun h => h2 (congrArg Out.err (Out.err.inj h))⟩
  · exact ⟨⟨st, h1⟩, nofun⟩
  · exact ⟨⟨st, h1⟩, nofun⟩

/-- `check_end` changes nothing but the offsets and the state, and never reports
`BufferLimit` -/
theorem checkEnd_frame (r : Reader) (ip : RecordPos) :
    (∃ bp st, (checkEnd r ip).1 = { r with bp := bp, state := st }) ∧
      (checkEnd r ip).2 ≠ .err .bufferLimit := by
  by_cases hq : ip = .qual
  · subst hq
    rw [checkEnd_qual]
    obtain ⟨⟨st, h⟩, h2⟩ := checkEndQ_frame { r with bp := { r.bp with pos1 := r.br.buf.length } }
    exact ⟨⟨_, st, h⟩, h2⟩
  · have leaf : ∀ o : Res Bool, o ≠ .err .bufferLimit →
        (∃ bp st, ((r, o) : Reader × Res Bool).1 = { r with bp := bp, state := st }) ∧
          ((r, o) : Reader × Res Bool).2 ≠ .err .bufferLimit :=
      fun o h => ⟨⟨r.bp, r.state, rfl⟩, h⟩
    simp only [checkEnd, hq, if_false]
    by_cases h0 : r.bp.pos0 ≤ r.br.buf.length
    · rw [if_pos h0]
      split
      · exact leaf _ nofun
      · cases getErrorPos r _ _ <;> exact leaf _ nofun
    · rw [if_neg h0]; exact leaf _ nofun

theorem checkEnd_br (r : Reader) (ip : RecordPos) : (checkEnd r ip).1.br = r.br := by
  obtain ⟨⟨bp, st, h⟩, -⟩ := checkEnd_frame r ip
  rw [h]

end SeqIo.Fastq
