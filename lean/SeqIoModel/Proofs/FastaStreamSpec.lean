import SeqIoModel.Proofs.FastaStreamScan
import SeqIoModel.Proofs.Bytes
/-!
# `scan` / `scanBlank` on the whole rest of the input agree with S

* `rec_spec`: the LF positions found by scanning from a record start are, through the record
  views, exactly the first record of `faGroup ∘ lines`, and the scan stops where S's next
  record starts.
* `blank_spec`: `scanBlank` over the pieces of a buffer skips what `skipBlank` skips.
-/
open SeqIo SeqIo.Spec SeqIo.WriteProofs
namespace SeqIo.Fasta

/-! ## `lines` by line -/

theorem lines_of_noLF (a : List UInt8) (h : LF ∉ a) : lines a = if a = [] then [] else [a] := by
  unfold lines
  rw [splitLF_noLF a h]
  cases a <;> simp

theorem lines_prefix (a y : List UInt8) (h : LF ∉ a) (hne : a ≠ []) :
    ∃ l1 ls, lines (a ++ y) = (a ++ l1) :: ls := by
  rcases exists_line_split y with hy | ⟨b, rest, hb, rfl⟩
  · refine ⟨y, [], ?_⟩
    have : LF ∉ a ++ y := by simp [h, hy]
    rw [lines_of_noLF _ this]
    simp [hne]
  · refine ⟨b, lines rest, ?_⟩
    have : LF ∉ a ++ b := by simp [h, hb]
    rw [← List.append_assoc, lines_cons _ _ this]

/-! ## `blank` -/

theorem blank_iff (l : List UInt8) : blank l = true ↔ l = [] ∨ l = [CR] := by
  unfold blank trimCr
  match l with
  | [] => simp
  | [x] => by_cases hx : x = CR <;> simp [hx]
  | x :: y :: r =>
    simp only [List.getLast?_cons_cons]
    split
    · split <;> simp
    · simp

/-! ## `scanBlank` / `skipBlank` steps -/

theorem scanBlank_blank (a : List UInt8) (ha : blank a = true) (ps : List (List UInt8))
    (ln pos ll0 : Nat) :
    scanBlank (a :: ps) ln pos ll0 = scanBlank ps (ln + 1) (pos + a.length + 1) a.length := by
  rcases (blank_iff a).1 ha with rfl | rfl
  · simp [scanBlank]
  · simp [scanBlank]

theorem scanBlank_nonblank (c : UInt8) (tl : List UInt8) (ha : blank (c :: tl) = false)
    (ps : List (List UInt8)) (ln pos ll0 : Nat) :
    scanBlank ((c :: tl) :: ps) ln pos ll0 = .inl (ln + 1, pos, c) := by
  have : ¬ (c = CR ∧ tl = []) := by
    rintro ⟨rfl, rfl⟩
    have := (blank_iff [CR]).2 (Or.inr rfl)
    simp [this] at ha
  simp [scanBlank, this]

theorem skipBlank_blank (a : List UInt8) (ha : blank a = true) (L : List (List UInt8))
    (byte line : Nat) :
    skipBlank (a :: L) byte line = skipBlank L (byte + a.length + 1) (line + 1) := by
  simp [skipBlank, ha]

theorem skipBlank_nonblank (a : List UInt8) (ha : blank a = false) (L : List (List UInt8))
    (byte line : Nat) :
    skipBlank (a :: L) byte line = (a :: L, byte, line) := by
  simp [skipBlank, ha]

theorem drop_line (a z : List UInt8) (k : Nat) :
    (a ++ LF :: z).drop (k + (a.length + 1)) = z.drop k := by
  rw [Nat.add_comm, ← List.drop_drop]
  have : (a ++ LF :: z).drop (a.length + 1) = z := by
    rw [← List.drop_drop]
    simp
  rw [this]

theorem blank_spec (w ext : List UInt8) (ln pos ll0 byte : Nat) :
    match scanBlank (splitLF w) ln pos ll0 with
    | .inl (ln', pos', c) =>
        pos ≤ pos' ∧ pos' - pos < w.length ∧
        skipBlank (lines (w ++ ext)) byte (ln + 1) = (lines ((w ++ ext).drop (pos' - pos)), byte + (pos' - pos), ln') ∧
        (w.drop (pos' - pos)).head? = some c ∧
        ∃ l ls, lines ((w ++ ext).drop (pos' - pos)) = l :: ls ∧ l.head? = some c
    | .inr (ln', pos', ll) =>
        pos' = pos + w.length + 1 ∧ ll ≤ 1 ∧ ll ≤ w.length ∧ 1 ≤ ln' ∧
        (w.drop (w.length - ll) = [] ∨ w.drop (w.length - ll) = [CR]) ∧
        (w.drop (w.length - ll)).length = ll ∧
        skipBlank (lines (w ++ ext)) byte (ln + 1) =
          skipBlank (lines (w.drop (w.length - ll) ++ ext)) (byte + w.length - ll) ln' := by
  induction w using line_induction generalizing ln pos ll0 byte with
  | h0 a ha =>
    rw [splitLF_noLF a ha]
    by_cases hb : blank a = true
    · rw [scanBlank_blank a hb]
      rcases (blank_iff a).1 hb with rfl | rfl
      · simp [scanBlank]
      · simp [scanBlank]
    · have hb : blank a = false := by simpa using hb
      cases a with
      | nil => simp [blank, trimCr] at hb
      | cons c tl =>
        rw [scanBlank_nonblank c tl hb]
        obtain ⟨l1, ls, hl⟩ := lines_prefix (c :: tl) ext ha (by simp)
        have hb' : blank (c :: tl ++ l1) = false := by
          cases hx : blank (c :: tl ++ l1) with
          | false => rfl
          | true =>
            rcases (blank_iff _).1 hx with h | h
            · simp at h
            · simp only [List.cons_append, List.cons.injEq, List.append_eq_nil_iff] at h
              obtain ⟨rfl, rfl, _⟩ := h
              rw [(blank_iff [CR]).2 (Or.inr rfl)] at hb
              exact absurd hb (by simp)
        simp only [Nat.sub_self, List.drop_zero, Nat.add_zero, Nat.le_refl, true_and]
        rw [hl, skipBlank_nonblank _ hb']
        simp
  | h1 a w' ha ih =>
    rw [splitLF_append a w' ha]
    have hwe : a ++ LF :: w' ++ ext = a ++ LF :: (w' ++ ext) := by simp
    have hlen : (a ++ LF :: w').length = w'.length + (a.length + 1) := by simp; omega
    by_cases hb : blank a = true
    · rw [scanBlank_blank a hb]
      have ih := ih (ln + 1) (pos + a.length + 1) a.length (byte + a.length + 1)
      generalize scanBlank (splitLF w') (ln + 1) (pos + a.length + 1) a.length = res at ih
      rw [hwe, lines_cons a _ ha, skipBlank_blank a hb]
      rcases res with ⟨ln', pos', c⟩ | ⟨ln', pos', ll⟩
      · simp only at ih ⊢
        obtain ⟨h1, h2, h3, h4, h5⟩ := ih
        have hk : pos' - pos = (pos' - (pos + a.length + 1)) + (a.length + 1) := by omega
        rw [hk, drop_line, drop_line, hlen]
        refine ⟨by omega, by omega, ?_, h4, h5⟩
        rw [h3]
        simp only [Prod.mk.injEq, true_and, and_true]
        omega
      · simp only at ih ⊢
        obtain ⟨h1, h2, h3, h4, h5, h6, h7⟩ := ih
        have hk : (a ++ LF :: w').length - ll = (w'.length - ll) + (a.length + 1) := by
          rw [hlen]; omega
        rw [hk, drop_line]
        refine ⟨by rw [hlen]; omega, h2, by rw [hlen]; omega, h4, h5, h6, ?_⟩
        rw [h7, hlen]
        congr 1
        omega
    · have hb : blank a = false := by simpa using hb
      cases a with
      | nil => simp [blank, trimCr] at hb
      | cons c tl =>
        rw [scanBlank_nonblank c tl hb]
        simp only [Nat.sub_self, List.drop_zero, Nat.add_zero, Nat.le_refl, true_and]
        rw [hwe, lines_cons _ _ ha, skipBlank_nonblank _ hb]
        simp

/-! ## `faGroup` without accumulators -/

/-- the leading non-header lines -/
def recBody : List (List UInt8) → List (List UInt8)
  | [] => []
  | l :: ls => if l.head? = some GT then [] else l :: recBody ls

/-- the lines from the first header line on -/
def recRest : List (List UInt8) → List (List UInt8)
  | [] => []
  | l :: ls => if l.head? = some GT then l :: ls else recRest ls

/-- bytes of terminated lines -/
def lineBytes : List (List UInt8) → Nat
  | [] => 0
  | l :: ls => l.length + 1 + lineBytes ls

theorem faGroup_hdr (l : List UInt8) (hl : l.head? = some GT) (ls : List (List UInt8)) (b n : Nat) :
    faGroup (l :: ls) b n none =
      faGroup ls (b + l.length + 1) (n + 1) (some ⟨b, n, trimCr (l.drop 1), []⟩) := by
  simp [faGroup, hl]

theorem faGroup_some (ls : List (List UInt8)) (b n : Nat) (r : FaRec) :
    faGroup ls b n (some r) =
      { r with seqLines := r.seqLines.reverse ++ (recBody ls).map trimCr } ::
        faGroup (recRest ls) (b + lineBytes (recBody ls)) (n + (recBody ls).length) none := by
  induction ls generalizing b n r with
  | nil => simp [faGroup, recBody, recRest, lineBytes]
  | cons l ls ih =>
    by_cases hl : l.head? = some GT
    · simp [faGroup, recBody, recRest, lineBytes, hl]
    · simp only [faGroup, recBody, recRest, lineBytes, hl, if_false]
      rw [ih]
      simp only [List.reverse_cons, List.append_assoc, List.singleton_append, List.map_cons,
        List.length_cons]
      have e1 : b + l.length + 1 + lineBytes (recBody ls) = b + (l.length + 1 + lineBytes (recBody ls)) := by omega
      have e2 : n + 1 + (recBody ls).length = n + ((recBody ls).length + 1) := by omega
      rw [e1, e2]

theorem allSome_map_some {α : Type} : ∀ l : List α, allSome (l.map some) = some l
  | [] => rfl
  | x :: l => by simp only [List.map_cons, allSome, allSome_map_some l, Option.map_some]

/-! ## views as a recursion over positions -/

def segsFrom (buf : List UInt8) : Nat → List Nat → List (Option (List UInt8))
  | _, [] => []
  | a, p :: ps => (slice buf a p).map trimCr :: segsFrom buf (p + 1) ps

theorem seqLines_cons (buf : List UInt8) (st p0 : Nat) (ps : List Nat) :
    seqLines buf ⟨st, p0 :: ps⟩ = segsFrom buf (p0 + 1) ps := by
  unfold seqLines
  simp only [List.drop_succ_cons, List.drop_zero]
  induction ps generalizing p0 with
  | nil => simp [segsFrom]
  | cons p ps ih =>
    simp only [List.zip_cons_cons, List.map_cons, segsFrom]
    rw [ih]

theorem head_cons (buf : List UInt8) (st p0 : Nat) (ps : List Nat) :
    head buf ⟨st, p0 :: ps⟩ = (slice buf (st + 1) p0).map trimCr := by
  simp [head]

theorem slice_mid (inp pre a post : List UInt8) (i : Nat) (h : inp = pre ++ a ++ post)
    (hi : i = pre.length) : slice inp i (i + a.length) = some a := by
  subst h hi
  unfold slice
  rw [if_pos (by simp)]
  congr 1
  rw [← List.length_append, List.take_left' rfl]
  simp

theorem finalPos_acc (f : Bool) (sp : Nat) (acc ys : List Nat) :
    finalPos (f, sp, acc ++ ys) = acc ++ finalPos (f, sp, ys) := by
  unfold finalPos
  split <;> simp

/-! ## the scan of a record against the lines of the input -/

theorem drop_pre_line (inp pre a z : List UInt8) (i : Nat) (h : inp = pre ++ (a ++ LF :: z))
    (hi : i = pre.length) : inp.drop (i + a.length + 1) = z := by
  subst h hi
  rw [Nat.add_assoc, ← List.drop_drop, List.drop_left]
  simp

/-- what a complete scan from the start of a line computes, in terms of `lines` -/
def ScanLines (inp t : List UInt8) (i : Nat) : Prop :=
  ∃ l0 Ls ps post, lines t = l0 :: Ls ∧ t = l0 ++ post ∧
    (∀ c, c ≠ LF → t.head? = some c → l0.head? = some c) ∧
    finalPos (scan t i []) = (i + l0.length) :: ps ∧
    allSome (segsFrom inp (i + l0.length + 1) ps) = some ((recBody Ls).map trimCr) ∧
    ps.length = (recBody Ls).length ∧
    (if (scan t i []).1 = true then
       (scan t i []).2.1 = i + l0.length + 1 + lineBytes (recBody Ls) ∧
       recRest Ls = lines (inp.drop (scan t i []).2.1) ∧
       (inp.drop (scan t i []).2.1).head? = some GT
     else recRest Ls = [])

theorem scan_lines (t : List UInt8) : t ≠ [] → ∀ (inp pre : List UInt8) (i : Nat),
    inp = pre ++ t → i = pre.length → ScanLines inp t i := by
  induction t using line_induction with
  | h0 a ha =>
    intro hne inp pre i hinp hi
    refine ⟨a, [], [], [], ?_, by simp, fun c _ h => h, ?_, ?_, ?_, ?_⟩
    · rw [lines_of_noLF a ha]; simp [hne]
    · simp [scan_noLF a ha, finalPos]
    · simp [segsFrom, allSome, recBody]
    · simp [recBody]
    · simp [scan_noLF a ha, recRest]
  | h1 a t' ha ih =>
    intro _ inp pre i hinp hi
    have hhead : ∀ c, c ≠ LF → (a ++ LF :: t').head? = some c → a.head? = some c := by
      intro c hc h
      cases a with
      | nil => simp at h; exact absurd h.symm hc
      | cons x xs => simp at h; simp [h]
    cases t' with
    | nil =>
      refine ⟨a, [], [], [LF], ?_, rfl, hhead, ?_, ?_, ?_, ?_⟩
      · rw [lines_cons a [] ha, lines_nil]
      · simp [scan_line_end a ha, finalPos]
      · simp [segsFrom, allSome, recBody]
      · simp [recBody]
      · simp [scan_line_end a ha, recRest]
    | cons c r =>
      by_cases hc : c = GT
      · subst hc
        obtain ⟨l1, ls, hl⟩ := lines_prefix [GT] r (by simp [GT, LF]) (by simp)
        simp only [List.singleton_append] at hl
        have hd := drop_pre_line inp pre a (GT :: r) i hinp hi
        refine ⟨a, lines (GT :: r), [], LF :: GT :: r, ?_, rfl, hhead, ?_, ?_, ?_, ?_⟩
        · rw [lines_cons a _ ha]
        · simp [scan_line_gt a ha, finalPos]
        · simp [segsFrom, allSome, recBody, hl]
        · simp [recBody, hl]
        · simp only [scan_line_gt a ha, if_true, hd]
          simp [hl, recBody, recRest, lineBytes]
      · have hinp' : inp = (pre ++ a ++ [LF]) ++ (c :: r) := by simp [hinp]
        have hi' : i + a.length + 1 = (pre ++ a ++ [LF]).length := by simp [hi]; omega
        obtain ⟨l0', Ls', ps', post', hlines, hpost, hh, hfin, hsegs, hlen, hrest⟩ :=
          ih (by simp) inp (pre ++ a ++ [LF]) (i + a.length + 1) hinp' hi'
        have hsc : scan (a ++ LF :: c :: r) i [] =
            ((scan (c :: r) (i + a.length + 1) []).1, (scan (c :: r) (i + a.length + 1) []).2.1,
              [i + a.length] ++ (scan (c :: r) (i + a.length + 1) []).2.2) := by
          rw [scan_line_next a ha c hc r i [], scan_acc]
          rfl
        generalize scan (c :: r) (i + a.length + 1) [] = x' at hsc hfin hrest
        obtain ⟨f, sp, ys⟩ := x'
        simp only at hsc hrest
        have hl0' : l0'.head? ≠ some GT := by
          cases l0' with
          | nil => simp
          | cons y ys =>
            simp only [List.cons_append, List.cons.injEq] at hpost
            simp only [List.head?_cons, ne_eq, Option.some.injEq]
            rw [← hpost.1]; exact hc
        have hslice : slice inp (i + a.length + 1) (i + a.length + 1 + l0'.length) = some l0' :=
          slice_mid inp (pre ++ a ++ [LF]) l0' post' _ (by rw [hinp', hpost]; simp) hi'
        refine ⟨a, l0' :: Ls', (i + a.length + 1 + l0'.length) :: ps', LF :: c :: r,
          ?_, rfl, hhead, ?_, ?_, ?_, ?_⟩
        · rw [lines_cons a _ ha, hlines]
        · rw [hsc, finalPos_acc, hfin]; rfl
        · simp only [segsFrom, hslice, Option.map_some, allSome, recBody, hl0', if_false,
            List.map_cons, hsegs]
        · simp [recBody, hl0', hlen]
        · rw [hsc]
          simp only [recBody, recRest, lineBytes, hl0', if_false]
          split at hrest
          · rename_i hf
            simp only [hf, if_true]
            refine ⟨?_, hrest.2.1, hrest.2.2⟩
            rw [hrest.1]; omega
          · rename_i hf
            simp only [hf]
            exact hrest

/-! ## the scanned record is S's record -/

theorem rec_spec (inp : List UInt8) (s ln : Nat) (h : (inp.drop s).head? = some GT) :
    ∃ H SL, head inp ⟨s, finalPos (scan (inp.drop s) s [])⟩ = some H ∧
      allSome (seqLines inp ⟨s, finalPos (scan (inp.drop s) s [])⟩) = some SL ∧
      specFrom inp s ln = Obs.record H SL ln s ::
        (if (scan (inp.drop s) s []).1 then
           specFrom inp (scan (inp.drop s) s []).2.1 (ln + (finalPos (scan (inp.drop s) s [])).length)
         else []) ∧
      ((scan (inp.drop s) s []).1 = true → (inp.drop (scan (inp.drop s) s []).2.1).head? = some GT) := by
  have hne : inp.drop s ≠ [] := by
    intro e; rw [e] at h; simp at h
  have hs : s < inp.length := by
    simpa using hne
  have hlen : s = (inp.take s).length := by simp; omega
  have hinp : inp = inp.take s ++ inp.drop s := (List.take_append_drop s inp).symm
  obtain ⟨l0, Ls, ps, post, hlines, hpost, hh, hfin, hsegs, hpl, hrest⟩ :=
    scan_lines (inp.drop s) hne inp (inp.take s) s hinp hlen
  have hl0 := hh GT (by simp [GT, LF]) h
  cases l0 with
  | nil => simp at hl0
  | cons g a' =>
    simp only [List.head?_cons, Option.some.injEq] at hl0
    subst hl0
    have hslice : slice inp (s + 1) (s + 1 + a'.length) = some a' := by
      apply slice_mid inp (inp.take s ++ [GT]) a' post
      · rw [hpost] at hinp
        simpa using hinp
      · simp; omega
    refine ⟨trimCr a', (recBody Ls).map trimCr, ?_, ?_, ?_, ?_⟩
    · rw [hfin, head_cons]
      have e : s + (GT :: a').length = s + 1 + a'.length := by simp; omega
      rw [e, hslice]; rfl
    · rw [hfin, seqLines_cons, hsegs]
    · unfold specFrom
      rw [hlines, faGroup_hdr _ (by simp), faGroup_some, hfin]
      simp only [List.map_cons, toObs, List.reverse_nil, List.nil_append, List.drop_succ_cons,
        List.drop_zero, List.length_cons, hpl]
      congr 1
      split at hrest
      · rename_i hf
        simp only [hf, if_true]
        rw [hrest.2.1, hrest.1]
        simp only [List.length_cons]
        have e : ln + 1 + (recBody Ls).length = ln + ((recBody Ls).length + 1) := by omega
        rw [e]
      · rename_i hf
        simp only [hf]
        rw [hrest]
        simp [faGroup]
    · intro hf
      rw [if_pos hf] at hrest
      exact hrest.2.2

end SeqIo.Fasta
