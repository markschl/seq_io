import SeqIoModel.Proofs.FastaFault
import SeqIoModel.Proofs.FastaHistoryTotal
/-!
# C05 under faults (FASTA): a successful `seek` restores the stream from any reachable state

The state is the one any history leaves behind under any read script, scripted seek failures and a
policy that may refuse (`Theorems/C05.lean` covers failure-free sources).  `WRInv` holds in every
such state (`whinv_runMSt`); a successful `seek` re-establishes it in state `positioned`, which with
a failure-free remaining script is the clean `Ready inp r' i` of `FastaHistoryInv` (`seek_ok_post`);
from there `next_rinv` is iterated (`runNexts_rinv`).
-/
open SeqIo SeqIo.FillProofs SeqIo.Spec

namespace SeqIo.Fasta.Hist

/-! ## the state of M after a history -/

/-- M's state after a history (the recursion of `Fault.endM`, and of `finalM` in `FastaSetGrowth`) -/
def runMSt (m : MSt) : List Op → MSt
  | [] => m
  | op :: ops => runMSt (stepM m op).1 ops

theorem runMSt_eq_endM (m : MSt) (ops : List Op) : runMSt m ops = Fault.endM m ops := by
  induction ops generalizing m with
  | nil => rfl
  | cons op ops ih => exact ih _

theorem runM_append (m : MSt) (ops ops' : List Op) :
    runM m (ops ++ ops') = runM m ops ++ runM (runMSt m ops) ops' := by
  induction ops generalizing m with
  | nil => rfl
  | cons op ops ih =>
    show (stepM m op).2 :: runM (stepM m op).1 (ops ++ ops') = _
    rw [ih]
    rfl

theorem runMSt_append (m : MSt) (ops ops' : List Op) :
    runMSt m (ops ++ ops') = runMSt (runMSt m ops) ops' := by
  induction ops generalizing m with
  | nil => rfl
  | cons op ops ih => exact ih _

theorem whinv_runMSt {inp : List UInt8} : ∀ (ops : List Op) (m : MSt), WHInv inp m →
    WHInv inp (runMSt m ops) ∧ (runMSt m ops).r.pol.f = m.r.pol.f := by
  intro ops
  induction ops with
  | nil => intro m h; exact ⟨h, rfl⟩
  | cons op ops ih =>
    intro m h
    obtain ⟨hinv, hpf, _⟩ := stepF h op
    obtain ⟨h1, h2⟩ := ih _ hinv
    exact ⟨h1, by rw [← hpf]; exact h2⟩

/-! ## (2) a successful seek establishes the clean positioned invariant -/

/-- from ANY state satisfying the weak invariant (arbitrary script so far, failed refills, failed
seeks, refusals): if `seek` to the position of record `i` of S succeeds and the remaining read
script is failure-free, the reader satisfies the invariant "record `i` is pending" (`Ready`) that
holds along failure-free scripts -/
theorem seek_ok_post {inp : List UInt8} {r r' : Reader} (h : WRInv inp r) (i : Nat) (rc : FaRec)
    (hrc : (recsOf inp)[i]? = some rc) (hseek : seek r rc.line rc.byte = (r', .ok ()))
    (hnf : NoFail r'.br.src.script) :
    RInv inp r' i ∧ r'.state ≠ .new ∧ r'.pol.f = r.pol.f := by
  obtain ⟨r2, res2, hs2, hpf2, -, hcase⟩ := seek_gen h.win h.byte_eq i rc hrc
  obtain ⟨rfl, rfl⟩ := Prod.mk.inj (hseek.symm.trans hs2)
  rcases hcase with ⟨-, hr, he, hst, -, -⟩ | ⟨k, hk, -⟩
  · exact ⟨RInv.ready (hr.toReady (G := True) (Or.inl ⟨hst, he⟩) trivial hnf) (Or.inl hst),
      by rw [hst]; nofun, hpf2⟩
  · cases hk

theorem rinv_of_seek_ok {inp : List UInt8} {r r' : Reader} (h : WRInv inp r) (i : Nat) (rc : FaRec)
    (hrc : (recsOf inp)[i]? = some rc) (hseek : seek r rc.line rc.byte = (r', .ok ()))
    (hnf : NoFail r'.br.src.script) : RInv inp r' i :=
  (seek_ok_post h i rc hrc hseek hnf).1

/-! ## (3) the stream of `next()` calls from a clean state in which record `k` is due -/

theorem observe_of_view {r' : Reader} {rc : FaRec} (hv : viewRec r'.br.buf r'.bp = some (view rc))
    (hpos : position r' = some (posOf rc)) : observe r' (.ok true) = toObs rc := by
  unfold viewRec at hv
  split at hv
  · rename_i H SL hh hs
    cases hv
    simp only [observe, hh, hs, hpos, posOf, toObs]
  · cases hv

theorem runNexts_length : ∀ (n : Nat) (r : Reader), (runNexts n r).length = n
  | 0, _ => rfl
  | n + 1, r => by rw [runNexts]; exact congrArg Nat.succ (runNexts_length n _)

/-- `n` consecutive `next()` calls from a state satisfying `RInv` in which record
`k` is due (any of the states `parsing`, `positioned`, `incomplete`, `finished`) show the records
`k, k+1, …` of S and then end of input; policy that may refuse: up to the first `BufferLimit` -/
theorem runNexts_rinv_refusing {inp : List UInt8} : ∀ (n : Nat) (r : Reader) (k : Nat),
    RInv inp r k → r.state ≠ .new →
    ∃ j, j ≤ n ∧ (runNexts n r).take j =
        ((((recsOf inp).drop k).map toObs ++ List.replicate n Obs.none).take n).take j ∧
      (j < n → (runNexts n r)[j]? = some (Obs.error .bufferLimit) ∧ ¬ PolGrows r.pol) := by
  intro n
  induction n with
  | zero => intro r k _ _; exact ⟨0, Nat.le_refl _, rfl, fun h => absurd h (Nat.lt_irrefl _)⟩
  | succ n ih =>
    intro r k h hst
    obtain ⟨r', res, hn, hfr, hcase⟩ :=
      next_rinv (fuel := opFuel r.br.src.inp.length r.br.src.script.length) h
        (by rw [h.win.b.inp_eq]; exact opFuel_gt _ _)
    rw [runNexts_succ n r r' res hn, stream_succ]
    -- the call shows the head of what S has left and leaves the tail due, or the policy refuses
    suffices hs : (∃ k', RInv inp r' k' ∧ r'.state ≠ .new ∧
          observe r' res = (((recsOf inp).drop k).map toObs).headD .none ∧
          ((recsOf inp).drop k').map toObs = (((recsOf inp).drop k).map toObs).tail) ∨
        res = .err .bufferLimit ∧ ¬ PolGrows r.pol by
      rcases hs with ⟨k', hinv', hst', hobs, htail⟩ | ⟨rfl, hng⟩
      · obtain ⟨j, hj, htake, hlim⟩ := ih r' k' hinv' hst'
        refine ⟨j + 1, Nat.succ_le_succ hj, ?_, fun hlt => ?_⟩
        · rw [List.take_succ_cons, List.take_succ_cons, hobs, ← htail, htake]
        · rw [List.getElem?_cons_succ]
          obtain ⟨h1, h2⟩ := hlim (Nat.lt_of_succ_lt_succ hlt)
          exact ⟨h1, fun hg => h2 (polGrows_congr hfr.polf hg)⟩
      · exact ⟨0, Nat.zero_le _, rfl, fun _ => ⟨rfl, hng⟩⟩
    rcases hcase with (⟨rfl, rc, hk, hv, _, _, hpos, hinv', hst'⟩ | ⟨hres, hng, _, _⟩) |
      ⟨rfl, hk, hfin, _⟩ | ⟨_, _, _, hnew, _⟩
    · obtain ⟨hlt, hget⟩ := List.getElem?_eq_some_iff.mp hk
      rw [List.drop_eq_getElem_cons hlt, hget]
      exact Or.inl ⟨k + 1, hinv', hst', observe_of_view hv hpos, rfl⟩
    · exact Or.inr ⟨hres, hng⟩
    · rw [hk, List.drop_length]
      exact Or.inl ⟨_, RInv.finished hfin rfl, by rw [hfin.st]; exact State.noConfusion, rfl,
        by rw [List.drop_length]; rfl⟩
    · exact absurd hnew hst

theorem runNexts_rinv {inp : List UInt8} (n : Nat) (r : Reader) (k : Nat)
    (h : RInv inp r k) (hst : r.state ≠ .new) (hpol : PolGrows r.pol) :
    runNexts n r = (((recsOf inp).drop k).map toObs ++ List.replicate n Obs.none).take n := by
  obtain ⟨j, hj, htake, hlim⟩ := runNexts_rinv_refusing n r k h hst
  rcases Nat.lt_or_ge j n with hlt | hge
  · exact absurd hpol (hlim hlt).2
  · obtain rfl : j = n := Nat.le_antisymm hj hge
    rw [List.take_of_length_le (Nat.le_of_eq (runNexts_length j r))] at htake
    rw [htake, List.take_take, Nat.min_self]

theorem specObs_drop {inp : List UInt8} {i : Nat} (hi : i < (recsOf inp).length) :
    (specObs inp).drop i = ((recsOf inp).drop i).map toObs := by
  rw [specObs_items, err_none_of_lt hi, List.map_drop]

/-! ## the theorems -/

/-- **C05 under faults, reader level.** From ANY reader state satisfying the invariant of
`fasta_history_total` (`WRInv`): a `seek` to the position of record `i` that returns `Ok(())`, with
a remaining read script that does not fail, is followed by exactly S's stream from record `i`. -/
theorem seek_restores_of_wrinv {inp : List UInt8} {r r' : Reader} (h : WRInv inp r)
    (hgrow : PolGrows r.pol) (i : Nat) (rc : FaRec) (hrc : (recsOf inp)[i]? = some rc)
    (hseek : seek r rc.line rc.byte = (r', .ok ())) (hnf : NoFail r'.br.src.script) (k : Nat) :
    runNexts k r' = ((specObs inp).drop i ++ List.replicate k Obs.none).take k := by
  obtain ⟨hr, hst, hpf⟩ := seek_ok_post h i rc hrc hseek hnf
  rw [specObs_drop (List.getElem?_eq_some_iff.mp hrc).1]
  exact runNexts_rinv k r' i hr hst (polGrows_congr hpf hgrow)

end SeqIo.Fasta.Hist

namespace SeqIo.Fasta
open SeqIo.Fasta.Hist

/-- **C05, seek part, under faults (FASTA).**  Take the state of M after ANY history `ops` on a
reader whose source follows ANY read script (failing and interrupted reads at any call), with
scripted seek failures, and whose policy may be asked at any time.  If in that state the seek to
the position of the `i`-th record of S returns `Ok(())`, and the read script that is left contains
no failure, then `k` further `next()` calls show exactly the records `i, i+1, …` of S (header,
sequence lines and `position()`), followed by end of input – the same as sequential reading shows
from record `i` on. -/
theorem fasta_seek_restores_after_faults
    (inp : List UInt8) (cap : Nat) (hcap : 3 ≤ cap) (pol : Pol) (hpol : PolWfPos pol) (hgrow : PolGrows pol)
    (script : List ReadEv) (chunk : Nat) (seekFails : List (Nat × IoKind)) (ops : List Hist.Op)
    (i : Nat) (hi : i < (Hist.items inp).recs.length) :
    let s := Hist.runMSt (Hist.mkMStF inp cap pol script chunk seekFails) ops
    let rc := (Hist.items inp).recs[i]
    ∀ r', seek s.r rc.line rc.byte = (r', .ok ()) →
      NoFail r'.br.src.script →
      ∀ k, runNexts k r' = ((specObs inp).drop i ++ List.replicate k Obs.none).take k := by
  intro s rc r' hseek hnf k
  obtain ⟨hinv, hpf⟩ := whinv_runMSt ops _ (whinv_init inp cap hcap pol hpol script chunk seekFails)
  exact seek_restores_of_wrinv hinv.rd (polGrows_congr hpf hgrow) i rc
    (List.getElem?_eq_getElem hi) hseek hnf k

/-- the same, phrased with the history operation `seekRec i`: if the history `ops ++ [seekRec i]`
ends with the observation `done` (= `Ok(())`) for an existing record `i`, and no failure is left in
the script, the reads that follow show S's stream from record `i` -/
theorem fasta_seekRec_restores_after_faults
    (inp : List UInt8) (cap : Nat) (hcap : 3 ≤ cap) (pol : Pol) (hpol : PolWfPos pol) (hgrow : PolGrows pol)
    (script : List ReadEv) (chunk : Nat) (seekFails : List (Nat × IoKind)) (ops : List Hist.Op)
    (i : Nat) (hi : i < (Hist.items inp).recs.length) :
    let s := Hist.runMSt (Hist.mkMStF inp cap pol script chunk seekFails) (ops ++ [.seekRec i])
    (Hist.runM (Hist.mkMStF inp cap pol script chunk seekFails) (ops ++ [.seekRec i])).getLast? = some .done →
      NoFail s.r.br.src.script →
      ∀ k, runNexts k s.r = ((specObs inp).drop i ++ List.replicate k Obs.none).take k := by
  intro s hobs hnf k
  have hs : s = (stepM (runMSt (mkMStF inp cap pol script chunk seekFails) ops) (.seekRec i)).1 :=
    runMSt_append _ ops [.seekRec i]
  rw [runM_append] at hobs
  have hdone := Option.some.inj (List.getLast?_concat.symm.trans hobs)
  obtain ⟨hinv, hpf⟩ := whinv_runMSt ops _ (whinv_init inp cap hcap pol hpol script chunk seekFails)
  generalize runMSt (mkMStF inp cap pol script chunk seekFails) ops = m at hs hdone hinv hpf
  have hrc : (items m.r.br.src.inp).recs[i]? = some ((items inp).recs[i]) := by
    rw [hinv.rd.win.b.inp_eq]; exact List.getElem?_eq_getElem hi
  simp only [stepM, hrc] at hs hdone
  rcases hsk : seek m.r ((items inp).recs[i]).line ((items inp).recs[i]).byte with ⟨r', res⟩
  rw [hsk] at hs hdone
  cases res with
  | ok u =>
    rw [hs] at hnf ⊢
    exact seek_restores_of_wrinv hinv.rd (polGrows_congr hpf hgrow) i _
      (List.getElem?_eq_getElem hi) hsk hnf k
  | _ => cases hdone

/-- policies that may refuse (`PolWfPos` only): after the successful seek the reads agree with S's
stream from record `i` up to the first `BufferLimit`, which is the only possible deviation -/
theorem fasta_seek_restores_after_faults_refusing
    (inp : List UInt8) (cap : Nat) (hcap : 3 ≤ cap) (pol : Pol) (hpol : PolWfPos pol)
    (script : List ReadEv) (chunk : Nat) (seekFails : List (Nat × IoKind)) (ops : List Hist.Op)
    (i : Nat) (hi : i < (Hist.items inp).recs.length) :
    let s := Hist.runMSt (Hist.mkMStF inp cap pol script chunk seekFails) ops
    let rc := (Hist.items inp).recs[i]
    ∀ r', seek s.r rc.line rc.byte = (r', .ok ()) →
      NoFail r'.br.src.script →
      ∀ k, ∃ j, j ≤ k ∧
        (runNexts k r').take j = (((specObs inp).drop i ++ List.replicate k Obs.none).take k).take j ∧
        (j < k → (runNexts k r')[j]? = some (Obs.error .bufferLimit)) := by
  intro s rc r' hseek hnf k
  obtain ⟨hinv, _⟩ := whinv_runMSt ops _ (whinv_init inp cap hcap pol hpol script chunk seekFails)
  obtain ⟨hr, hst, _⟩ := seek_ok_post hinv.rd i rc (List.getElem?_eq_getElem hi) hseek hnf
  obtain ⟨j, hj, htake, hlim⟩ := runNexts_rinv_refusing k r' i hr hst
  rw [specObs_drop hi]
  exact ⟨j, hj, htake, fun hlt => (hlim hlt).1⟩

end SeqIo.Fasta

/-! ## non-vacuity: concrete data (checked by `decide`) -/

namespace SeqIo.Fasta.SeekAfterFaultExample
open SeqIo.Fasta.Hist

/-- `>a\nAC\n>b\nG\n>c\nT\n` -/
def inp : List UInt8 := [62, 97, 10, 65, 67, 10, 62, 98, 10, 71, 10, 62, 99, 10, 84, 10]

/-- capacity 4; the first refill hands out 3 bytes and then fails -/
def m1 : MSt := mkMStF inp 4 PolDesc.std.toPol [.data 3, .fail 0] 0 []

/-- the error is observed by the first `next`, the reader is left in state `new` with the partly
filled buffer `>a\n`; then a seek to record 1 (not in the buffer: a real seek of the source) and reads -/
example : runM m1 [.next, .seekRec 1, .next, .next, .next] =
    [.error (.io 0), .done, .record [98] [[71]], .record [99] [[84]], .none] := by decide +kernel

example : (runMSt m1 [.next]).r.br.buf = [62, 97, 10] ∧ (runMSt m1 [.next]).r.state = .new := by decide +kernel

/-- a seek to record 0 takes the in-buffer branch, which first completes the partly filled buffer -/
example : runM m1 [.next, .seekRec 0, .next, .next, .next, .next] =
    [.error (.io 0), .done, .record [97] [[65, 67]], .record [98] [[71]], .record [99] [[84]], .none] := by
  decide +kernel

/-- the hypotheses of `fasta_seek_restores_after_faults` hold for `ops = [next]`, `i = 1` … -/
example : (items inp).recs.length = 3 ∧ ((items inp).recs[1]?.map fun rc => (rc.line, rc.byte)) = some (3, 6) := by
  decide +kernel

example : ∃ r', seek (runMSt m1 [.next]).r 3 6 = (r', .ok ()) ∧ FillProofs.NoFail r'.br.src.script := by
  have h2 : (seek (runMSt m1 [.next]).r 3 6).2 = .ok () := by decide +kernel
  have h3 : (seek (runMSt m1 [.next]).r 3 6).1.br.src.script = [] := by decide +kernel
  refine ⟨(seek (runMSt m1 [.next]).r 3 6).1, ?_, ?_⟩
  · rw [← h2]
  · rw [h3]; exact FillProofs.noFail_nil

/-- … and this is its conclusion for `k = 4`, computed on the concrete machine -/
example : runNexts 4 (seek (runMSt m1 [.next]).r 3 6).1 =
    [.record [98] [[71]] 3 6, .record [99] [[84]] 5 11, .none, .none] := by decide +kernel

example : ((specObs inp).drop 1 ++ List.replicate 4 Obs.none).take 4 =
    [.record [98] [[71]] 3 6, .record [99] [[84]] 5 11, .none, .none] := by decide +kernel

/-- several failures (during the search for the end of a record: state `incomplete`), an interrupted
read, a failing seek (seek call 0 fails with kind 9), then successful seeks and reads -/
def m2 : MSt :=
  mkMStF inp 4 PolDesc.std.toPol [.data 4, .intr, .data 1, .fail 7, .data 2, .fail 3] 0 [(0, 9)]

example : runM m2 [.next, .next, .pos, .seekRec 2, .seekRec 2, .next, .seekRec 0, .next, .next, .next, .next] =
    [.error (.io 7), .error (.io 3), .pos (some (1, 0)), .error (.io 9), .done, .record [99] [[84]],
      .done, .record [97] [[65, 67]], .record [98] [[71]], .record [99] [[84]], .none] := by decide +kernel

example : (runMSt m2 [.next, .next]).r.state = .incomplete := by decide +kernel

end SeqIo.Fasta.SeekAfterFaultExample

