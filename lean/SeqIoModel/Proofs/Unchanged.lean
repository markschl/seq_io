import SeqIoModel.Proofs.Recode
import SeqIoModel.Proofs.FastqStream
/-!
# C11: writing records unchanged reproduces the input bytes

S level: the *raw extent* of a record is the text of its lines in the input, from its byte offset
up to (excluding) the LF that ends its last line, or up to the end of the input.  Writing every
record's extent followed by LF reproduces the input (with an LF added after an unterminated last
line, and FASTQ trailing blank lines dropped).

M level (FASTQ): `write_unchanged` of the record a `next()` call has just returned writes exactly
that extent followed by LF.
-/

open SeqIo SeqIo.Spec SeqIo.WriteProofs SeqIo.Recode

namespace SeqIo.Unchanged

/-! ## raw extents -/

/-- the text of the `n` lines of `inp` that start at offset `byte`, without the LF ending the last
of them -/
def extent (inp : List UInt8) (byte n : Nat) : List UInt8 :=
  joinLF ((splitLF (inp.drop byte)).take n)

def rawFq (inp : List UInt8) (r : FqRec) : List UInt8 := extent inp r.byte 4

def rawFa (inp : List UInt8) (r : FaRec) : List UInt8 := extent inp r.byte (1 + r.seqLines.length)

theorem extent_prefix (inp : List UInt8) (byte n : Nat) (hn : 0 < n) :
    ∃ rest, inp.drop byte = extent inp byte n ++ rest ∧ (rest = [] ∨ ∃ t, rest = LF :: t) := by
  unfold extent
  generalize inp.drop byte = l
  have h := joinLF_splitLF l
  generalize splitLF l = ps at h
  by_cases hlen : ps.length ≤ n
  · exact ⟨[], by rw [List.take_of_length_le hlen, h, List.append_nil], Or.inl rfl⟩
  · have hd : ps.drop n ≠ [] := fun e => hlen (List.drop_eq_nil_iff.mp e)
    have ht : ps.take n ≠ [] := by
      intro e
      rcases List.take_eq_nil_iff.mp e with h0 | h0
      · omega
      · exact hlen (by rw [h0]; exact Nat.zero_le _)
    refine ⟨LF :: joinLF (ps.drop n), ?_, Or.inr ⟨_, rfl⟩⟩
    rw [← h]
    conv => lhs; rw [← List.take_append_drop n ps]
    rw [joinLF_append_ne _ _ hd, ← joinLF_add_LF _ ht]
    simp

/-! ## FASTA: the records tile the input -/

/-- what writing a record unchanged emits at the S level -/
def faOut (inp : List UInt8) (r : FaRec) : List UInt8 := rawFa inp r ++ [LF]

theorem faOut_pend (before pend after : List (List UInt8)) (hno : ∀ l ∈ pend ++ after, LF ∉ l)
    (r : FaRec) (hlen : pend.length = 1 + r.seqLines.length)
    (hbyte : r.byte = (unlines before).length) :
    faOut (joinLF (before ++ (pend ++ after))) r = unlines pend := by
  have hne : pend ≠ [] := by
    intro e; rw [e] at hlen; simp at hlen; omega
  unfold faOut rawFa extent
  rw [hbyte, joinLF_append_ne before _ (by simp [hne]), List.drop_left,
    splitLF_joinLF _ (by simp [hne]) hno, ← hlen, List.take_left, joinLF_add_LF _ hne]

/-- `faGroup` run on the lines `ls` that follow the lines `pend` already given to the current
record: the extents of the records it returns, each followed by LF, are the text of all of these
lines -/
theorem faGroup_tiles (tl ls : List (List UInt8)) :
    ∀ (before pend : List (List UInt8)) (byte line : Nat) (r : FaRec),
      (∀ l ∈ pend ++ (ls ++ tl), LF ∉ l) → pend.length = 1 + r.seqLines.length →
      r.byte = (unlines before).length → byte = (unlines (before ++ pend)).length →
      (faGroup ls byte line (some r)).flatMap (faOut (joinLF (before ++ (pend ++ (ls ++ tl))))) =
        unlines (pend ++ ls) := by
  induction ls with
  | nil =>
    intro before pend byte line r hno hlen hbyte _
    simp only [faGroup, List.flatMap_cons, List.flatMap_nil, List.append_nil]
    exact faOut_pend before pend ([] ++ tl) hno { r with seqLines := r.seqLines.reverse }
      (by simpa using hlen) hbyte
  | cons l ls ih =>
    intro before pend byte line r hno hlen hbyte hb
    have hb' : byte + l.length + 1 = (unlines (before ++ pend ++ [l])).length := by
      rw [unlines_append _ [l], unlines_cons, unlines_nil, hb]
      simp only [List.length_append, List.length_cons, List.length_nil]
      omega
    rw [faGroup]
    by_cases hg : l.head? = some GT
    · -- a header line: the current record is complete
      simp only [hg, if_true, List.flatMap_cons]
      have h1 := faOut_pend before pend (l :: ls ++ tl) hno
        { r with seqLines := r.seqLines.reverse } (by simpa using hlen) hbyte
      have h2 := ih (before ++ pend) [l] (byte + l.length + 1) (line + 1)
        { byte := byte, line := line, head := trimCr (l.drop 1), seqLines := [] }
        (fun x hx => hno x (List.mem_append_right _ hx)) rfl hb hb'
      simp only [List.append_assoc, List.cons_append, List.nil_append] at h1 h2 ⊢
      rw [h1, h2, ← unlines_append]
    · -- a sequence line
      simp only [hg, if_false]
      have h2 := ih before (pend ++ [l]) (byte + l.length + 1) (line + 1)
        { r with seqLines := trimCr l :: r.seqLines }
        (by simpa only [List.append_assoc, List.cons_append, List.nil_append] using hno)
        (by simp [hlen]; omega) hbyte (by rw [← List.append_assoc]; exact hb')
      simpa only [List.append_assoc, List.cons_append, List.nil_append] using h2

theorem lines_head_GT (inp : List UInt8) (h : inp.head? = some GT) :
    ∃ p ps, lines inp = (GT :: p) :: ps := by
  cases inp with
  | nil => simp at h
  | cons b rest =>
    obtain rfl : b = GT := by simpa using h
    obtain ⟨q, qs, hs⟩ := List.exists_cons_of_ne_nil (splitLF_ne_nil rest)
    obtain ⟨tl, e, htl⟩ := splitLF_eq_lines (GT :: rest)
    simp only [splitLF, show GT ≠ LF by decide, if_false, hs] at e
    cases hl : lines (GT :: rest) with
    | nil => rw [hl] at e; rcases htl with rfl | rfl <;> simp at e
    | cons x xs => rw [hl] at e; exact ⟨q, xs, by rw [(List.cons.inj e).1]⟩

/-- **C11, FASTA, S level, every input that starts with a header line.**  Writing each record's
extent followed by LF yields the input's lines, each terminated by LF: the input itself, with an LF
added if its last line had none. -/
theorem fasta_unchanged_lines (inp : List UInt8) (hstart : inp.head? = some GT) :
    ∃ rs, Spec.fasta inp = .records rs ∧ rs.flatMap (faOut inp) = unlines (lines inp) := by
  obtain ⟨p, ps, hl⟩ := lines_head_GT inp hstart
  obtain ⟨tl, hs, -⟩ := splitLF_eq_lines inp
  have hno := splitLF_pieces_noLF inp
  have hinp := joinLF_splitLF inp
  rw [hs, hl] at hno hinp
  have ht := faGroup_tiles tl ps [] [GT :: p] (0 + (GT :: p).length + 1) (1 + 1)
    { byte := 0, line := 1, head := trimCr ((GT :: p).drop 1), seqLines := [] }
    hno rfl rfl (by simp [unlines])
  rw [List.nil_append, List.singleton_append, ← List.cons_append, hinp] at ht
  refine ⟨faGroup ((GT :: p) :: ps) 0 1 none, ?_, ?_⟩
  · unfold Spec.fasta
    rw [hl]
    simp [skipBlank, not_blank_GT]
  · rw [faGroup, hl]
    simp only [List.head?_cons, if_true]
    exact ht

theorem unlines_physLines (tls : List (List UInt8 × Term)) (final : Bool) :
    unlines (physLines tls final) =
      encodeLines tls final ++ (if final || tls.isEmpty then [] else [LF]) := by
  fun_induction physLines tls final with
  | case1 final => simp [unlines, encodeLines]
  | case2 l t final => cases final <;> simp [unlines, encodeLines, Term.bytes_eq]
  | case3 l t x rest final ih =>
    rw [unlines_cons, ih, encodeLines, Term.bytes_eq]
    simp

/-- **C11, FASTA, S level, encoded files** (any mixture of terminators, no blank lines): writing
every record's extent followed by LF reproduces the file, plus an LF if its last line had no
terminator. -/
theorem fasta_unchanged_concat (recs : List (List UInt8 × List (List UInt8))) (hok : FaOk recs)
    (terms : Nat → Term) (final : Bool) :
    ∃ rs, Spec.fasta (encodeFasta recs terms final) = .records rs ∧
      rs.flatMap (faOut (encodeFasta recs terms final)) =
        encodeFasta recs terms final ++ (if final || recs.isEmpty then [] else [LF]) := by
  cases recs with
  | nil =>
    refine ⟨[], ?_, by simp [encodeFasta, Recode.faLines, encodeLines]⟩
    simp [encodeFasta, Recode.faLines, encodeLines, Spec.fasta, lines, splitLF, skipBlank]
  | cons p recs =>
    have hfst := map_fst_mapIdx (Recode.faLines (p :: recs)) terms
    unfold encodeFasta
    generalize (Recode.faLines (p :: recs)).mapIdx (fun i l => (l, terms i)) = tls at hfst ⊢
    have hlines := lines_encodeFasta (p :: recs) hok tls hfst final
    rw [Recode.faLines_cons] at hfst
    obtain ⟨⟨l, t⟩, tls', rfl⟩ : ∃ a tls', tls = a :: tls' := by
      cases tls with
      | nil => simp at hfst
      | cons a tls' => exact ⟨a, tls', rfl⟩
    obtain rfl : l = GT :: p.1 := (List.cons.inj hfst).1
    obtain ⟨rs, h1, h2⟩ := fasta_unchanged_lines (encodeLines ((GT :: p.1, t) :: tls') final)
      (by cases tls' <;> simp [encodeLines])
    refine ⟨rs, h1, ?_⟩
    rw [h2, hlines, unlines_physLines]
    simp

/-- with the final terminator present the file is reproduced exactly -/
theorem fasta_unchanged_exact (recs : List (List UInt8 × List (List UInt8))) (hok : FaOk recs)
    (terms : Nat → Term) :
    ∃ rs, Spec.fasta (encodeFasta recs terms true) = .records rs ∧
      rs.flatMap (faOut (encodeFasta recs terms true)) = encodeFasta recs terms true := by
  obtain ⟨rs, h1, h2⟩ := fasta_unchanged_concat recs hok terms true
  exact ⟨rs, h1, by simpa using h2⟩

/-! ## FASTQ, S level -/

/-- what writing the item unchanged emits at the S level (nothing for the error item) -/
def fqOut (inp : List UInt8) : FqItem → List UInt8
  | .record r => rawFq inp r ++ [LF]
  | .err _ _ _ => []

/-- the extent of a terminated record, plus LF, is its encoding -/
theorem rawFq_step (p : FqContent) (hh : HeadOk p.1) (hs : FieldOk p.2.1) (hq : FieldOk p.2.2.1)
    (t : Term) (pre x : List UInt8) (r : FqRec) (hr : r.byte = pre.length) :
    rawFq (pre ++ (enc4 p t ++ x)) r ++ [LF] = enc4 p t := by
  unfold rawFq extent
  rw [hr, List.drop_left, enc4_eq, splitLF_unlines_append _ (recLines_noLF p hh hs hq t t),
    List.take_left' (l₁ := recLines p t t) (i := 4) rfl, joinLF_add_LF _ (by simp [recLines])]

/-- the extent of the last record without terminator is the rest of the input -/
theorem rawFq_last (p : FqContent) (hh : HeadOk p.1) (hs : FieldOk p.2.1) (hq : FieldOk p.2.2.1)
    (t : Term) (pre : List UInt8) (r : FqRec) (hr : r.byte = pre.length) :
    rawFq (pre ++ encodeFastq [p] t false) r = encodeFastq [p] t false := by
  unfold rawFq extent
  rw [hr, List.drop_left, encodeFastq_single_false,
    splitLF_joinLF _ (by simp [recLines]) (recLines_noLF p hh hs hq t .lf),
    List.take_of_length_le (by simp [recLines])]

theorem fq_concat (recs : List FqContent) (hok : FqOk recs) (t : Term) (final : Bool)
    (e : List UInt8) (he : final = false → e = [])
    (hE : ∀ b l, fqGo false (splitLF e) b l = []) (pre : List UInt8) (line : Nat) :
    (fqGo false (splitLF (encodeFastq recs t final ++ e)) pre.length line).flatMap
        (fqOut (pre ++ (encodeFastq recs t final ++ e))) =
      encodeFastq recs t final ++ (if final || recs.isEmpty then [] else [LF]) := by
  induction recs generalizing pre line with
  | nil => simp [encodeFastq_nil, hE]
  | cons p recs ih =>
    obtain ⟨hh, hs, hq, hl⟩ := hok p (by simp)
    rcases more_or_last recs final with hc | ⟨rfl, rfl⟩
    · have e1 := fqGo_step p hh hs hq hl t (encodeFastq recs t final ++ e) pre.length line
      have e2 := ih (fun x hx => hok x (by simp [hx])) (pre ++ enc4 p t) (line + 4)
      have hfix : (final || recs.isEmpty) = final := by
        cases recs <;> cases final <;> simp at hc ⊢
      rw [List.length_append] at e2
      rw [encodeFastq_cons p recs t final hc, List.append_assoc, e1, List.flatMap_cons]
      rw [List.append_assoc] at e2
      rw [e2]
      simp only [fqOut]
      rw [rawFq_step p hh hs hq t pre _ _ rfl, hfix]
      simp
    · rw [he rfl, List.append_nil, fqGo_last p hh hs hq hl]
      simp only [List.flatMap_cons, List.flatMap_nil, List.append_nil, fqOut]
      rw [rawFq_last p hh hs hq t pre _ rfl]
      simp

/-- **C11, FASTQ, S level.** Writing the extent of every record followed by LF reproduces the file,
plus an LF if its last line had no terminator. -/
theorem fastq_unchanged_concat (recs : List FqContent) (hok : FqOk recs) (t : Term) (final : Bool) :
    (Spec.fastq (encodeFastq recs t final)).flatMap (fqOut (encodeFastq recs t final)) =
      encodeFastq recs t final ++ (if final || recs.isEmpty then [] else [LF]) := by
  have := fq_concat recs hok t final [] (fun _ => rfl) (fun b l => fqGo_end false b l) [] 1
  unfold Spec.fastq
  simpa only [List.append_nil, List.nil_append, List.length_nil] using this

theorem encodeLines_lf_add (tls : List (List UInt8 × Term)) (h : ∀ p ∈ tls, p.2 = .lf)
    (hne : tls ≠ []) : encodeLines tls false ++ [LF] = encodeLines tls true := by
  induction tls with
  | nil => exact absurd rfl hne
  | cons a tls ih =>
    obtain ⟨l, t⟩ := a
    have ht : t = .lf := h (l, t) (by simp)
    subst ht
    cases tls with
    | nil => simp [encodeLines, Term.bytes]
    | cons b tls =>
      rw [encodeLines, encodeLines, List.append_assoc, ih (fun p hp => h p (by simp [hp])) (by simp)]

/-- an LF-terminated file without its final LF: the output is the file with that LF added -/
theorem fastq_unchanged_concat_lf (recs : List FqContent) (hok : FqOk recs) (final : Bool) :
    (Spec.fastq (encodeFastq recs .lf final)).flatMap (fqOut (encodeFastq recs .lf final)) =
      encodeFastq recs .lf true := by
  rw [fastq_unchanged_concat recs hok .lf final]
  cases final
  · cases recs with
    | nil => simp [encodeFastq_nil]
    | cons p recs =>
      simp only [Bool.false_or, List.isEmpty_cons, Bool.false_eq_true, if_false]
      unfold encodeFastq
      apply encodeLines_lf_add
      · intro q hq
        obtain ⟨l, _, rfl⟩ := List.mem_map.mp hq
        rfl
      · simpa using fqLines_ne_nil p recs
  · simp

/-- trailing blank lines are dropped -/
theorem fastq_unchanged_trailing (recs : List FqContent) (hok : FqOk recs) (t : Term) (trail : Nat)
    (htrail : trail ≤ 2) :
    (Spec.fastq (encodeFastq recs t true ++ (List.replicate trail t.bytes).flatten)).flatMap
        (fqOut (encodeFastq recs t true ++ (List.replicate trail t.bytes).flatten)) =
      encodeFastq recs t true := by
  have := fq_concat recs hok t true _ (fun h => by cases h) (fqGo_blank_lines t trail htrail) [] 1
  unfold Spec.fastq
  simpa only [List.nil_append, List.length_nil, Bool.true_or, if_true, List.append_nil] using this

end SeqIo.Unchanged

/-! ## FASTQ, M level: `write_unchanged` after `next()` -/

namespace SeqIo.Fastq.Unch
open SeqIo SeqIo.Spec SeqIo.WriteProofs SeqIo.FillProofs SeqIo.Unchanged SeqIo.Fastq.Hist

/-- what `write_unchanged` writes for a record in a buffer that is a window of the input: the bytes
of the input from the record's offset on, `pos1 - pos0` of them; then LF -/
theorem writeUnchanged_window (inp : List UInt8) (r : Reader)
    (hwin : inp.drop r.byte = r.br.buf.drop r.bp.pos0 ++ inp.drop r.br.src.cursor)
    (h01 : r.bp.pos0 ≤ r.bp.pos1) (h1 : r.bp.pos1 ≤ r.br.buf.length) :
    writeUnchanged r.br.buf r.bp =
      some ((inp.drop r.byte).take (r.bp.pos1 - r.bp.pos0) ++ [LF]) := by
  simp only [writeUnchanged, slice_of_le h01 h1, Option.map_some, Option.some.injEq]
  rw [hwin, List.drop_take, List.take_append_of_le_length (by rw [List.length_drop]; omega)]

/-- the bytes of the record a reader shows are its four lines without the final LF -/
theorem shown_extent {inp : List UInt8} {G : Prop} {st : State} {r : Reader} {x : FqRec}
    {its' : List FqItem} (h : Shown inp G st r x its') :
    (inp.drop r.byte).take (r.bp.pos1 - r.bp.pos0) = extent inp r.byte 4 := by
  unfold extent
  have h01 := h.p01
  rcases h.rest with ⟨-, -, -, -, h4⟩ | ⟨-, -, hn, hl⟩
  · -- all four lines are terminated
    obtain ⟨h', s, p, q, hs, hlen, -⟩ := splitLF_nl4_some h4
    have hT := joinLF_splitLF (inp.drop r.byte)
    rw [hs] at hT ⊢
    simp only [List.take_succ_cons, List.take_zero]
    conv => lhs; rw [← hT]
    exact take_joinLF [h', s, p, q] _ (by simp) (splitLF_ne_nil _)
      (by simp only [joinLF, List.length_append, List.length_cons]; omega)
  · -- the quality line is ended by the end of the input
    rw [← hl, List.take_length, List.take_of_length_le (Nat.le_of_eq hn), joinLF_splitLF]

/-- **C11, FASTQ, M level.** After a `next()` call (from any reachable state, any buffer capacity,
refill pattern and growth policy) that returns a record, `write_unchanged` of that record succeeds
and writes the raw extent of S's record in the input followed by LF; that extent is the `pos1 - pos0`
bytes of the input from the record's byte offset on. -/
theorem fastq_unchanged_bytes (inp : List UInt8) (G : Prop) (fuel : Nat) (r : Reader)
    (items : List FqItem) (hg : Good inp G r items) (hfuel : r.br.src.inp.length + 2 ≤ fuel)
    (hok : (next fuel r).2 = .ok true) :
    ∃ (x : FqRec) (rest : List FqItem), items = .record x :: rest ∧
      Good inp G (next fuel r).1 rest ∧ (next fuel r).1.byte = x.byte ∧
      writeUnchanged (next fuel r).1.br.buf (next fuel r).1.bp = some (rawFq inp x ++ [LF]) ∧
      rawFq inp x =
        (inp.drop x.byte).take ((next fuel r).1.bp.pos1 - (next fuel r).1.bp.pos0) := by
  rcases next_found inp G fuel r items hg hfuel with
    (⟨-, x, its', hits, hsh⟩ | ⟨hr, -⟩ | ⟨e, b, l, hr, -⟩ | ⟨e, hr, -⟩) | ⟨-, hr, -⟩
  · have hb : Base inp G (next fuel r).1 := ⟨hsh.win, Nat.le_trans hsh.p01 hsh.p1l⟩
    have hw := writeUnchanged_window inp _ hb.win hsh.p01 hsh.p1l
    have hx := shown_extent hsh
    have hbyte := hsh.byte_eq
    refine ⟨x, its', hits, hsh.good, hbyte.symm, ?_, ?_⟩
    · rw [hw, hx, rawFq, hbyte]
    · rw [rawFq, hbyte, hx]
  · rw [hok] at hr; cases hr
  · rw [hok] at hr; cases hr
  · rw [hok] at hr; cases hr
  · rw [hok] at hr
    rcases hr with hr | ⟨k, hr⟩ <;> cases hr

/-! ### the whole stream -/

/-- `k` times: `next()`, then `write_unchanged` of the record if one was returned; the output is
collected (`none` = a `write_unchanged` panicked) -/
def runWrites : Nat → Reader → Option (List UInt8)
  | 0, _ => some []
  | k + 1, r =>
    let x := next (opFuel r.br.src.inp.length r.br.src.script.length) r
    match x.2 with
    | .ok true =>
      match writeUnchanged x.1.br.buf x.1.bp, runWrites k x.1 with
      | some a, some b => some (a ++ b)
      | _, _ => none
    | _ => runWrites k x.1

theorem runWrites_spec (inp : List UInt8) (k : Nat) :
    ∀ (r : Reader) (items : List FqItem), Good inp True r items →
      runWrites k r = some ((items.take k).flatMap (fqOut inp)) := by
  induction k with
  | zero => intro r items _; simp [runWrites]
  | succ k ih =>
    intro r items hg
    have hfuel := opFuel_enough r
    by_cases hok : (next (opFuel r.br.src.inp.length r.br.src.script.length) r).2 = .ok true
    · obtain ⟨x, rest, hi, hg', -, hw, -⟩ := fastq_unchanged_bytes inp True _ r items hg hfuel hok
      simp only [runWrites, hok, hw, ih _ rest hg', hi, List.take_succ_cons, List.flatMap_cons, fqOut]
    · have hrun : runWrites (k + 1) r =
          runWrites k (next (opFuel r.br.src.inp.length r.br.src.script.length) r).1 := by
        simp only [runWrites]
      rw [hrun]
      rcases next_found inp True _ r items hg hfuel with
        (⟨hr, -⟩ | ⟨hr, hits, hfin⟩ | ⟨e, b, l, hr, hits, hfin⟩ | ⟨e, hr, henv, hG, hfin⟩) | ⟨hG, -⟩
      · exact absurd hr hok
      · rw [ih _ [] hfin.good, hits]; simp
      · rw [ih _ [] hfin.good, hits]; simp [fqOut]
      · exact absurd trivial hG
      · exact absurd trivial hG

/-- **C11, FASTQ, M level, the whole stream.** `next()` / `write_unchanged` in a loop writes the
extents of S's records, each followed by LF, for every input, capacity ≥ 3, growing policy and
read script without failing events. -/
theorem fastq_write_unchanged_stream (inp : List UInt8) (cap : Nat) (hcap : 3 ≤ cap) (pol : Pol)
    (hpol : PolGrows pol) (script : List ReadEv) (hs : NoFail script) (chunk : Nat) (k : Nat) :
    runWrites k (mkReader inp cap pol script chunk) =
      some (((Spec.fastq inp).take k).flatMap (fqOut inp)) :=
  runWrites_spec inp k _ _ (good_mkReader inp cap hcap pol hpol script hs chunk)

/-- **C11, FASTQ, end to end.** Reading a well-formed LF or CRLF file and writing every record
unchanged reproduces the file byte for byte, with an LF added if the last line had no terminator. -/
theorem fastq_write_unchanged_file (recs : List Recode.FqContent) (hok : Recode.FqOk recs)
    (t : Recode.Term) (final : Bool) (cap : Nat) (hcap : 3 ≤ cap) (pol : Pol) (hpol : PolGrows pol)
    (script : List ReadEv) (hs : NoFail script) (chunk : Nat) (k : Nat) (hk : recs.length ≤ k) :
    runWrites k (mkReader (Recode.encodeFastq recs t final) cap pol script chunk) =
      some (Recode.encodeFastq recs t final ++ (if final || recs.isEmpty then [] else [LF])) := by
  rw [fastq_write_unchanged_stream _ cap hcap pol hpol script hs chunk k,
    ← fastq_unchanged_concat recs hok t final]
  obtain ⟨rs, h1, h2⟩ := Recode.fastq_recode_invariant recs hok t final
  have hlen : (Spec.fastq (Recode.encodeFastq recs t final)).length = recs.length := by
    have h3 := congrArg List.length (Recode.fqExpected_content recs 1)
    rw [← h2] at h3
    simp only [List.length_map] at h3
    rw [h1, List.length_map, h3]
  rw [List.take_of_length_le (by omega)]

end SeqIo.Fastq.Unch
