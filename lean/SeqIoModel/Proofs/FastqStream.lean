import SeqIoModel.Proofs.FastqStreamResume
/-!
# FASTQ stream theorem

`k` consecutive `next()` calls of the concrete FASTQ reader `M` (buffer refills, shifting,
growth, resumable search) show exactly what the reference semantics `S` prescribes: its records
in order, then its first error once, then end of input forever — for every input, capacity ≥ 3,
growing policy, and read script without failing events (`fastq_next_stream`).

One `next` call from a `Good` state finds S's next item and leaves a `Good` state (`next_spec`),
in any environment `G`.
-/

namespace SeqIo.Fastq
open SeqIo SeqIo.Spec SeqIo.WriteProofs SeqIo.FillProofs SeqIo.Fastq.Hist

theorem search_cases {inp G r} (hb : Base inp G r) (he : Eof inp r) (hip : r.incompletePos = none) :
    (∃ bp' ip', search r = ({ r with bp := bp', incompletePos := some ip' }, .ok false) ∧
      bp'.pos0 = r.bp.pos0 ∧ Scan r.br.buf bp' ip') ∨
    (∃ bp' x its', itemsAt inp r.byte r.line = .record x :: its' ∧
      search r = ({ r with bp := bp', incompletePos := none }, .ok true) ∧
      Shown inp G r.state { r with bp := bp', incompletePos := none } x its') ∨
    (∃ bp' e b l, itemsAt inp r.byte r.line = [.err e b l] ∧
      search r = ({ r with bp := bp', incompletePos := none, state := .finished },
        .err (specErr e)) ∧
      Win inp G { r with bp := bp', incompletePos := none, state := .finished }) := by
  rcases si_spec r .head hb.pos0_le trivial with ⟨bp', ip', hp0, hsc, hres⟩ | ⟨bp', hp0, hf4, hres⟩
  · exact Or.inl ⟨bp', ip', by rw [search_eq r hip, hres]; rfl, hp0, hsc⟩
  · rw [search_eq r hip, hres, wrapS_wrapV_validate]
    have hb2 := hb.set_bp bp' none hp0
    rcases complete_cases inp G _ hb2 he rfl hf4 with ⟨x, its', hi, hv, hsh⟩ | ⟨e, b, l, hi, hv⟩
    · exact Or.inr (Or.inl ⟨bp', x, its', hi, hv, hsh⟩)
    · exact Or.inr (Or.inr ⟨bp', e, b, l, hi, hv, (hb2.set_state _).toWin⟩)

theorem nextCont_pending {fuel : Nat} {r : Reader} {ip : RecordPos} (h : r.incompletePos = some ip) :
    nextCont fuel r = resume fuel ip true r := by
  simp only [nextCont, h, Option.isNone_some, Bool.false_eq_true, if_false]

theorem nextCont_fresh {fuel : Nat} {r : Reader} (h : r.incompletePos = none) :
    nextCont fuel r =
      match search r with
      | (r, .ok _) =>
        match r.incompletePos with
        | some ip => resume fuel ip true r
        | none => (r, .ok true)
      | x => x := by
  simp only [nextCont, h, Option.isNone_none, if_true]
  rfl

theorem nextCont_found (inp : List UInt8) (G : Prop) (fuel : Nat) (r : Reader) (hb : Base inp G r)
    (he : Eof inp r) (hip : IpOk r) (hfuel : inp.length + 2 ≤ fuel) :
    Found inp G r.state (itemsAt inp r.byte r.line) (nextCont fuel r) ∧
      Reqs (fun c => ¬ Fits (inp.drop r.byte) c) r (nextCont fuel r).1 (nextCont fuel r).2 := by
  cases hipv : r.incompletePos with
  | some ip =>
    rw [nextCont_pending hipv]
    obtain ⟨hF, -, hL⟩ := resume_spec inp G true fuel r ip hb he (hip ip hipv) (mu_lt r hfuel)
    exact ⟨hF, hL.mono fun c h => h rfl⟩
  | none =>
    rcases search_cases hb he hipv with ⟨bp', ip', hs, hp0, hsc⟩ | ⟨bp', x, its', hi, hs, hsh⟩ |
      ⟨bp', e, b, l, hi, hs, hw⟩
    · have : nextCont fuel r =
          resume fuel ip' true { r with bp := bp', incompletePos := some ip' } := by
        simp only [nextCont_fresh hipv, hs]
      rw [this]
      obtain ⟨hF, -, hL⟩ := resume_spec inp G true fuel _ ip' (hb.set_bp bp' _ hp0) he hsc
        (mu_lt _ hfuel)
      exact ⟨hF, hL.mono fun c h => h rfl⟩
    · simp only [nextCont_fresh hipv, hs, hi]
      exact ⟨.record rfl x its' rfl hsh, Reqs.same rfl rfl nofun⟩
    · simp only [nextCont_fresh hipv, hs, hi]
      exact ⟨.err e b l rfl rfl ⟨rfl, hw⟩,
        Reqs.same rfl rfl (by simpa using specErr_ne_bl e)⟩

theorem good_positioned_of {inp G r its} (hb : Base inp G r) (he : Eof inp r) (hip : IpOk r)
    (hits : its = itemsAt inp r.byte r.line) (hst : r.state = .positioned) : Good inp G r its := by
  simp only [Good, hst]
  exact ⟨hb, he, hip, hits⟩

theorem Fin.good {inp G r} (h : Fin inp G r) : Good inp G r [] := by
  unfold Good
  rw [h.1]
  exact ⟨h.2, rfl⟩

/-- in a non-ideal environment the reader has stopped: a failed first refill leaves it `new` with
all items still ahead, everything else `finished` -/
def Stopped (inp : List UInt8) (G : Prop) (its : List FqItem) (x : Reader × Res Bool) : Prop :=
  ¬ G ∧ (x.2 = .ok false ∨ ∃ k, x.2 = .err (.io k)) ∧
    ∃ its', Good inp G x.1 its' ∧ (x.1.state = .finished ∨ x.1.state = .new) ∧
      (its' = [] ∨ its' = its)

def FoundN (inp : List UInt8) (G : Prop) (its : List FqItem) (x : Reader × Res Bool) : Prop :=
  Found inp G .parsing its x ∨ Stopped inp G its x

/-- input offset of the group the next `next` call will parse -/
def nextByte (r : Reader) : Nat :=
  match r.state with
  | .parsing => r.byte + (r.bp.pos1 + 1 - r.bp.pos0)
  | _ => r.byte

/-- the snapshot of the buffer taken when the loop of `read_record_set_exact` is left normally -/
def setFin (x : Reader × RecordSet × Res Bool) : Reader × RecordSet × Res Bool :=
  match x with
  | (r, rs, .ok true) => (r, { rs with buffer := r.br.buf }, .ok true)
  | x => x

/-- first part of `next` and of `read_record_set_exact`: get to the start of a record -/
def setPre (r : Reader) : Reader × Res Bool :=
  match r.state with
  | .new =>
    match init r with
    | (r, .ok true) => ({ r with state := .positioned }, .ok true)
    | x => x
  | .finished => (r, .ok false)
  | .parsing =>
    match incrementRecord r with
    | some r => ({ r with state := .positioned }, .ok true)
    | none => (r, .panic)
  | .positioned => (r, .ok true)

/-- the rest of `next` -/
def nextPost (fuel : Nat) (pre : Reader × Res Bool) : Reader × Res Bool :=
  match pre with
  | (r, .ok true) => nextCont fuel { r with state := .parsing }
  | x => x

theorem next_eq (fuel : Nat) (r : Reader) : next fuel r = nextPost fuel (setPre r) := by
  unfold next setPre incrementRecord
  cases r.state with
  | new =>
    dsimp only
    rcases init r with ⟨r', (b | _ | _ | _)⟩
    · cases b <;> rfl
    all_goals rfl
  | parsing =>
    dsimp only
    cases csub (r.bp.pos1 + 1) r.bp.pos0 <;> rfl
  | _ => rfl

/-- the rest of `read_record_set_exact`: the loop and the copy of the buffer -/
def setPost (fu : Nat) (n : Option Nat) (rs : RecordSet) (pre : Reader × Res Bool) :
    Reader × RecordSet × Res Bool :=
  match pre with
  | (r, .ok true) => setFin (setLoop fu fu n true r { rs with positions := [] })
  | (r, .ok false) => (r, rs, .ok false)
  | (r, .err e) => (r, rs, .err e)
  | (r, .panic) => (r, rs, .panic)
  | (r, .fuel) => (r, rs, .fuel)

theorem readSet_eq (fu : Nat) (r : Reader) (rs : RecordSet) (n : Option Nat) :
    readRecordSetExact fu r rs n = setPost fu n rs (setPre r) := rfl

theorem setPost_ok (fu : Nat) (n : Option Nat) (rs : RecordSet) (r : Reader) :
    setPost fu n rs (r, .ok true) = setFin (setLoop fu fu n true r { rs with positions := [] }) := rfl

theorem nextPost_of_ne {fuel : Nat} {r : Reader} {res : Res Bool} (h : res ≠ .ok true) :
    nextPost fuel (r, res) = (r, res) := by
  rcases res with (b | _ | _ | _)
  · cases b
    · rfl
    · exact absurd rfl h
  all_goals rfl

theorem setPost_of_ne {fu : Nat} {n : Option Nat} {rs : RecordSet} {r : Reader} {res : Res Bool}
    (h : res ≠ .ok true) : setPost fu n rs (r, res) = (r, rs, res) := by
  rcases res with (b | _ | _ | _)
  · cases b
    · rfl
    · exact absurd rfl h
  all_goals rfl

/-- the first part from a good state: either the call ends at once (the reader is `finished`, or
the first refill finds the input empty or fails), or the search starts from a good `positioned`
reader `r2` at the start of the next group; no request is made on the way -/
theorem enter_cases {inp G r its} (hg : Good inp G r its) :
    (∃ r' res, setPre r = (r', res) ∧ res ≠ .ok true ∧
      Reqs (fun _ => False) r r' res ∧ r'.state ≠ .positioned ∧
      ((res = .ok false ∧ its = [] ∧ Fin inp G r') ∨ Stopped inp G its (r', res))) ∨
    (∃ r2, setPre r = (r2, .ok true) ∧ Good inp G r2 its ∧ r2.state = .positioned ∧
      r2.byte = nextByte r ∧ Reqs (fun _ => False) r r2 (.ok true)) := by
  cases hst : r.state with
  | finished =>
    simp only [Good, hst] at hg
    exact Or.inl ⟨r, .ok false, by simp only [setPre, hst], nofun,
      Reqs.same rfl rfl nofun, by rw [hst]; nofun, Or.inl ⟨rfl, hg.2, hst, hg.1⟩⟩
  | positioned =>
    exact Or.inr ⟨r, by simp only [setPre, hst], hg, hst, by simp only [nextByte, hst],
      Reqs.same rfl rfl nofun⟩
  | new =>
    simp only [Good, hst] at hg
    obtain ⟨hw, hbufG, hp0, hbyte, hline, hip, hitems⟩ := hg
    rcases fill_cases inp G r hw with
      ⟨br', ext, m, hfill, -, hcap', -, hext, hw2, he2, hm⟩ |
      ⟨br', ext, k, hfill, -, hcap', -, -, hnG, hw2⟩
    · cases m with
      | zero =>
        refine Or.inl ⟨{ r with br := br', state := .finished }, .ok false,
          by simp only [setPre, hst, init, hfill], nofun, Reqs.same rfl hcap' nofun, nofun, ?_⟩
        by_cases hG : G
        · refine Or.inl ⟨rfl, ?_, rfl, hw2.set_state _⟩
          -- nothing was read into the empty buffer at offset 0
          have h1 := hw.byte_pos
          have h2 := hw.cap3
          rw [hbufG hG, hbyte, hp0] at h1
          rw [hbufG hG] at hext
          simp only [List.length_nil] at h1 hext
          have hnil : inp = [] := List.eq_nil_of_length_eq_zero (by omega)
          rw [hitems, hnil]
          exact fqGo_end false 0 1
        · exact Or.inr ⟨hG, Or.inl rfl, [], Fin.good ⟨rfl, hw2.set_state _⟩, Or.inl rfl,
            Or.inl rfl⟩
      | succ m =>
        refine Or.inr ⟨{ r with br := br', state := .positioned },
          by simp only [setPre, hst, init, hfill], ?_, rfl, by simp only [nextByte, hst],
          Reqs.same rfl hcap' nofun⟩
        exact good_positioned_of (Base.set_state ⟨hw2, by simp [hp0]⟩ _) he2
          (by intro ip h; simp only [hip] at h; cases h) (by rw [hitems, hbyte, hline]) rfl
    · refine Or.inl ⟨{ r with br := br', state := .new }, .err (.io k),
        by simp only [setPre, hst, init, hfill], nofun, Reqs.same rfl hcap' nofun, nofun,
        Or.inr ⟨hnG, Or.inr ⟨k, rfl⟩, its, ?_, Or.inr rfl, Or.inr rfl⟩⟩
      unfold Good
      exact ⟨hw2.set_state _, fun h => absurd h hnG, hp0, hbyte, hline, hip, hitems⟩
  | parsing =>
    simp only [Good, hst] at hg
    obtain ⟨hb, he, hip, h01, h1l, hitems⟩ := hg
    refine Or.inr ⟨{ stepOver r with state := .positioned },
      by simp only [setPre, hst, incrementRecord_eq r h01], ?_, rfl,
      by simp only [nextByte, hst, stepOver], Reqs.same rfl rfl nofun⟩
    exact good_positioned_of (Base.set_state ⟨hb.toWin.stepOver h01, h1l⟩ _) he
      (by intro ip h; simp only [stepOver, hip] at h; cases h) hitems rfl

/-- one `next` call finds S's next item, with requests only while the group it parses does not fit
into the capacity passed -/
theorem next_step (inp : List UInt8) (G : Prop) (fuel : Nat) (r : Reader) (its : List FqItem)
    (hg : Good inp G r its) (hfuel : r.br.src.inp.length + 2 ≤ fuel) :
    FoundN inp G its (next fuel r) ∧
      Reqs (fun c => ¬ Fits (inp.drop (nextByte r)) c) r (next fuel r).1 (next fuel r).2 := by
  rw [good_inp hg] at hfuel
  rw [next_eq]
  rcases enter_cases hg with ⟨r', res, hp, hne, hR, -, hE⟩ | ⟨r2, hp, hg2, hst2, hby, hR⟩
  · rw [hp, nextPost_of_ne hne]
    exact ⟨hE.elim (fun h => Or.inl (.none h.1 h.2.1 h.2.2)) Or.inr, hR.mono nofun⟩
  · simp only [Good, hst2] at hg2
    obtain ⟨hb, he, hip, hits⟩ := hg2
    obtain ⟨hF, hN⟩ := nextCont_found inp G fuel { r2 with state := .parsing } (hb.set_state _) he
      hip hfuel
    rw [hp, ← hby, hits]
    exact ⟨Or.inl hF, (hR.mono nofun).trans nofun hN⟩

theorem next_found (inp : List UInt8) (G : Prop) (fuel : Nat) (r : Reader) (its : List FqItem)
    (hg : Good inp G r its) (hfuel : r.br.src.inp.length + 2 ≤ fuel) :
    FoundN inp G its (next fuel r) :=
  (next_step inp G fuel r its hg hfuel).1

theorem observe_of_viewRec {r : Reader} {x : Rec} (h : viewRec r.br.buf r.bp = some x) :
    observe r (.ok true) = .record x.head x.seq x.qual r.line r.byte := by
  simp only [viewRec] at h
  simp only [observe]
  split at h
  · rename_i h1 h2 h3
    simp only [Option.some.injEq] at h
    subst h
    simp only [h1, h2, h3]
  · cases h

theorem Shown.good {inp G r x its'} (h : Shown inp G .parsing r x its') : Good inp G r its' := by
  rcases h.rest with ⟨hst, hip, h1l, hits, -⟩ | ⟨hst, hits, -⟩
  · simp only [Good, hst]
    exact ⟨⟨h.win, by have := h.p01; omega⟩, h.eof, hip, Nat.le_succ_of_le h.p01, h1l, hits⟩
  · simp only [Good, hst]
    exact ⟨h.win, hits⟩

/-- one `next` call: a good state for the remaining items, and what the caller sees -/
theorem next_spec (inp : List UInt8) (G : Prop) (fuel : Nat) (r : Reader) (items : List FqItem)
    (hg : Good inp G r items) (hfuel : r.br.src.inp.length + 2 ≤ fuel) :
    ∃ items', Good inp G (next fuel r).1 items' ∧
      ((items = [] ∧ items' = [] ∧ observe (next fuel r).1 (next fuel r).2 = .none) ∨
       (∃ i, items = i :: items' ∧ observe (next fuel r).1 (next fuel r).2 = obsOf i) ∨
       ¬ G) := by
  rcases next_found inp G fuel r items hg hfuel with
    (⟨hr, x, its', hits, hsh⟩ | ⟨hr, hits, hfin⟩ | ⟨e, b, l, hr, hits, hfin⟩ |
      ⟨e, hr, henv, hG, hfin⟩) | ⟨hG, -, its', hg', -⟩
  · refine ⟨its', hsh.good, Or.inr (Or.inl ⟨_, hits, ?_⟩)⟩
    rw [hr, observe_of_viewRec hsh.view]
    simp only [obsOf, recOf, hsh.line_eq, hsh.byte_eq]
  · refine ⟨[], hfin.good, Or.inl ⟨hits, rfl, ?_⟩⟩
    rw [hr]; rfl
  · refine ⟨[], hfin.good, Or.inr (Or.inl ⟨_, hits, ?_⟩)⟩
    rw [hr]; rfl
  · exact ⟨[], hfin.good, Or.inr (Or.inr hG)⟩
  · exact ⟨its', hg', Or.inr (Or.inr hG)⟩

/-- `k` consecutive `next` calls from a good state (never-refusing policy) -/
theorem runNexts_spec (inp : List UInt8) (k : Nat) :
    ∀ (r : Reader) (items : List FqItem), Good inp True r items →
      runNexts k r = (items.map obsOf ++ List.replicate k Obs.none).take k := by
  induction k with
  | zero => intro r items _; simp [runNexts]
  | succ k ih =>
    intro r items hg
    have hfuel : r.br.src.inp.length + 2 ≤ opFuel r.br.src.inp.length r.br.src.script.length := by
      simp only [opFuel]; omega
    obtain ⟨items', hg', hcase⟩ := next_spec inp True _ r items hg hfuel
    simp only [runNexts]
    rw [ih _ items' hg']
    rcases hcase with ⟨h1, h2, h3⟩ | ⟨i, h1, h2⟩ | h1
    · subst h1; subst h2
      rw [h3]
      simp [List.replicate_succ]
    · subst h1
      rw [h2]
      simp only [List.map_cons, List.cons_append, List.take_succ_cons]
      rw [take_append_replicate_succ]
    · exact absurd trivial h1

theorem win_mkReader (inp : List UInt8) (G : Prop) (cap : Nat) (hcap : 3 ≤ cap) (pol : Pol)
    (hwf : PolWf1 pol) (hg : G → PolGrows pol) (script : List ReadEv) (hs : G → NoFail script)
    (chunk : Nat) (seekFails : List (Nat × IoKind)) (hsf : G → seekFails = []) :
    Win inp G (mkReader inp cap pol script chunk seekFails) := by
  refine ⟨rfl, Nat.zero_le _, hs, hwf, hg, hcap, Nat.zero_le _, Nat.le_refl _, ?_, rfl, hsf⟩
  simp [mkReader]

theorem good_mkReader_env (inp : List UInt8) (G : Prop) (cap : Nat) (hcap : 3 ≤ cap) (pol : Pol)
    (hwf : PolWf1 pol) (hg : G → PolGrows pol) (script : List ReadEv) (hs : G → NoFail script)
    (chunk : Nat) (seekFails : List (Nat × IoKind)) (hsf : G → seekFails = []) :
    Good inp G (mkReader inp cap pol script chunk seekFails) (Spec.fastq inp) := by
  unfold Good
  refine ⟨win_mkReader inp G cap hcap pol hwf hg script hs chunk seekFails hsf,
    fun _ => rfl, rfl, rfl, rfl, rfl, ?_⟩
  simp only [itemsAt, List.drop_zero, Spec.fastq]

theorem good_mkReader (inp : List UInt8) (cap : Nat) (hcap : 3 ≤ cap) (pol : Pol) (hpol : PolGrows pol)
    (script : List ReadEv) (hs : NoFail script) (chunk : Nat) :
    Good inp True (mkReader inp cap pol script chunk) (Spec.fastq inp) :=
  good_mkReader_env inp True cap hcap pol hpol.wf1 (fun _ => hpol) script (fun _ => hs) chunk []
    fun _ => rfl

/-- the stream theorem for every policy that grows from capacities ≥ 1 on (this includes the
built-in `StdPolicy` and `DoubleUntil`, see `polGrows_std`, `polGrows_doubleUntil`) -/
theorem fastq_next_stream_polGrows (inp : List UInt8) (cap : Nat) (hcap : 3 ≤ cap) (pol : Pol)
    (hpol : PolGrows pol) (script : List ReadEv) (hs : NoFail script) (chunk : Nat) (k : Nat) :
    runNexts k (mkReader inp cap pol script chunk) =
      (specObs inp ++ List.replicate k Obs.none).take k := by
  rw [specObs_eq]
  exact runNexts_spec inp k _ _ (good_mkReader inp cap hcap pol hpol script hs chunk)

theorem fastq_next_stream_std (inp : List UInt8) (cap : Nat) (hcap : 3 ≤ cap)
    (script : List ReadEv) (hs : NoFail script) (chunk : Nat) (k : Nat) :
    runNexts k (mkReader inp cap PolDesc.std.toPol script chunk) =
      (specObs inp ++ List.replicate k Obs.none).take k :=
  fastq_next_stream_polGrows inp cap hcap _ polGrows_std script hs chunk k

/-- `k` consecutive `next()` calls yield S's records in order, then S's first error
exactly once, then end of input forever; never a panic, never out of fuel, never
`BufferLimit`. -/
theorem fastq_next_stream (inp : List UInt8) (cap : Nat) (hcap : 3 ≤ cap) (pol : Pol)
    (hpol : PolOk pol) (script : List ReadEv) (hs : NoFail script) (chunk : Nat) (k : Nat) :
    runNexts k (mkReader inp cap pol script chunk) =
      (specObs inp ++ List.replicate k Obs.none).take k :=
  fastq_next_stream_polGrows inp cap hcap pol (PolOk.grows hpol) script hs chunk k

/-- the whole input fits into the buffer, ideal source -/
theorem fastq_next_stream_single_buffer (inp : List UInt8) (cap : Nat) (hcap : 3 ≤ cap)
    (_hfit : inp.length < cap) (pol : Pol) (hpol : PolOk pol) (k : Nat) :
    runNexts k (mkReader inp cap pol [] 0) = (specObs inp ++ List.replicate k Obs.none).take k :=
  fastq_next_stream inp cap hcap pol hpol [] noFail_nil 0 k

/-! ## the invariant of `next` and its corollaries -/

/-- reader states reachable by API calls (never-refusing policy): good for some list of
remaining items -/
def Inv (inp : List UInt8) (r : Reader) : Prop := ∃ items, Good inp True r items

theorem inv_mkReader (inp : List UInt8) (cap : Nat) (hcap : 3 ≤ cap) (pol : Pol) (hpol : PolGrows pol)
    (script : List ReadEv) (hs : NoFail script) (chunk : Nat) :
    Inv inp (mkReader inp cap pol script chunk) :=
  ⟨_, good_mkReader inp cap hcap pol hpol script hs chunk⟩

theorem next_preserves_inv (inp : List UInt8) (fuel : Nat) (r : Reader) (h : Inv inp r)
    (hfuel : r.br.src.inp.length + 2 ≤ fuel) : Inv inp (next fuel r).1 := by
  obtain ⟨items, hg⟩ := h
  obtain ⟨items', hg', -⟩ := next_spec inp True fuel r items hg hfuel
  exact ⟨items', hg'⟩

theorem opFuel_enough (r : Reader) :
    r.br.src.inp.length + 2 ≤ opFuel r.br.src.inp.length r.br.src.script.length := by
  simp only [opFuel]; omega

theorem next_observe (inp : List UInt8) (fuel : Nat) (r : Reader) (h : Inv inp r)
    (hfuel : r.br.src.inp.length + 2 ≤ fuel) :
    observe (next fuel r).1 (next fuel r).2 = .none ∨
      ∃ i, observe (next fuel r).1 (next fuel r).2 = obsOf i := by
  obtain ⟨items, hg⟩ := h
  obtain ⟨items', -, hc⟩ := next_spec inp True fuel r items hg hfuel
  rcases hc with ⟨-, -, h3⟩ | ⟨i, -, h2⟩ | h1
  · exact Or.inl h3
  · exact Or.inr ⟨i, h2⟩
  · exact absurd trivial h1

theorem obsOf_clean (i : FqItem) :
    obsOf i ≠ .panic ∧ obsOf i ≠ .fuel ∧ obsOf i ≠ .error .bufferLimit ∧
      ∀ k, obsOf i ≠ .error (.io k) := by
  cases i with
  | record => exact ⟨nofun, nofun, nofun, nofun⟩
  | err e => cases e <;> exact ⟨nofun, nofun, nofun, nofun⟩

theorem next_clean (inp : List UInt8) (fuel : Nat) (r : Reader) (h : Inv inp r)
    (hfuel : r.br.src.inp.length + 2 ≤ fuel) :
    observe (next fuel r).1 (next fuel r).2 ≠ .panic ∧
      observe (next fuel r).1 (next fuel r).2 ≠ .fuel ∧
      observe (next fuel r).1 (next fuel r).2 ≠ .error .bufferLimit ∧
      ∀ k, observe (next fuel r).1 (next fuel r).2 ≠ .error (.io k) := by
  rcases next_observe inp fuel r h hfuel with e | ⟨i, e⟩ <;> rw [e]
  · exact ⟨nofun, nofun, nofun, nofun⟩
  · exact obsOf_clean i

/-- neither the operation nor the views of the returned record panic -/
theorem no_panic (inp : List UInt8) (fuel : Nat) (r : Reader) (h : Inv inp r)
    (hfuel : r.br.src.inp.length + 2 ≤ fuel) :
    (next fuel r).2 ≠ .panic ∧ observe (next fuel r).1 (next fuel r).2 ≠ .panic :=
  have hc := (next_clean inp fuel r h hfuel).1
  ⟨fun hp => hc (by rw [hp]; rfl), hc⟩

/-- `opFuel` is enough for every loop of a `next` call -/
theorem fuel_enough (inp : List UInt8) (r : Reader) (h : Inv inp r) :
    (next (opFuel r.br.src.inp.length r.br.src.script.length) r).2 ≠ .fuel :=
  fun hp => (next_clean inp _ r h (opFuel_enough r)).2.1 (by rw [hp]; rfl)

/-- a growing policy is never refused, a script without failing events never fails -/
theorem no_bufferLimit_no_io (inp : List UInt8) (fuel : Nat) (r : Reader) (h : Inv inp r)
    (hfuel : r.br.src.inp.length + 2 ≤ fuel) :
    (next fuel r).2 ≠ .err .bufferLimit ∧ ∀ k, (next fuel r).2 ≠ .err (.io k) :=
  have hc := (next_clean inp fuel r h hfuel).2.2
  ⟨fun hp => hc.1 (by rw [hp]; rfl), fun k hp => hc.2 k (by rw [hp]; rfl)⟩

end SeqIo.Fastq
