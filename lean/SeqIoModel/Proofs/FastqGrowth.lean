import SeqIoModel.Proofs.FastqHistory
/-!
# Growth bookkeeping of the FASTQ reader (C09)

Every `next` call extends the log of policy requests by a well-formed chain: each entry
`(c, a)` is made at the capacity `c` of that moment (first the capacity on entry, then the
previous answer), a granted request raises the capacity to the answer, `BufferLimit` is returned
iff the last request was refused; and requests are made only while the group being parsed does
not fit into the buffer.  The only source of requests is `resume` (`resume_spec`).
-/

namespace SeqIo.Fastq
open SeqIo SeqIo.Spec SeqIo.FillProofs SeqIo.Fastq.Hist

/-! ## reading a `GrowLog` -/

theorem GrowLog.nil_inv {c cf : Nat} {b : Bool} (h : GrowLog c [] cf b) : cf = c ∧ b = false := by
  cases h; exact ⟨rfl, rfl⟩

/-- the capacities passed to the policy: the one on entry, then the previous answers -/
theorem GrowLog.caps {c cf : Nat} {new : List (Nat × Option Nat)} {b : Bool}
    (h : GrowLog c new cf b) :
    new.map Prod.fst = (c :: new.filterMap Prod.snd).take new.length := by
  induction h with
  | nil c => rfl
  | grant c n rest cf b _ _ ih => simp [ih]
  | refuse c => rfl

/-- the final capacity is the last granted answer (the capacity on entry if there is none) -/
theorem GrowLog.final {c cf : Nat} {new : List (Nat × Option Nat)} {b : Bool}
    (h : GrowLog c new cf b) : cf = (new.filterMap Prod.snd).getLastD c := by
  induction h with
  | nil c => rfl
  | grant c n rest cf b _ _ ih => rw [ih]; exact (List.getLastD_cons ..).symm
  | refuse c => rfl

theorem GrowLog.grows {c cf : Nat} {new : List (Nat × Option Nat)} {b : Bool}
    (h : GrowLog c new cf b) : ∀ c' n, (c', some n) ∈ new → c' < n := by
  induction h with
  | nil c => nofun
  | grant c n rest cf b hlt _ ih =>
    intro c' n' hm
    rcases List.mem_cons.mp hm with h | hm
    · cases h; exact hlt
    · exact ih c' n' hm
  | refuse c => intro c' n hm; simp at hm

/-- the last request was refused iff the log ends with `(c, none)` -/
theorem GrowLog.refused_iff {c cf : Nat} {new : List (Nat × Option Nat)} {b : Bool}
    (h : GrowLog c new cf b) : b = true ↔ ∃ c', new.getLast? = some (c', none) := by
  induction h with
  | nil c => simp
  | grant c n rest cf b _ hrest ih =>
    rw [ih]
    cases rest with
    | nil => simp
    | cons y ys => simp [List.getLast?_cons_cons]
  | refuse c => simp

theorem GrowLog.cap_le {c cf : Nat} {new : List (Nat × Option Nat)} {b : Bool}
    (h : GrowLog c new cf b) : c ≤ cf := by
  induction h with
  | nil c => exact Nat.le_refl _
  | grant c n rest cf b hlt _ ih => omega
  | refuse c => exact Nat.le_refl _

theorem GrowLog.head_eq {c cf : Nat} {e : Nat × Option Nat} {rest : List (Nat × Option Nat)}
    {b : Bool} (h : GrowLog c (e :: rest) cf b) : e.1 = c := by
  cases h <;> rfl

theorem Reqs.cap_eq {P : Nat → Prop} {r r' : Reader} {res : Res Bool} (h : Reqs P r r' res)
    (hl : r'.log = r.log) : r'.br.cap = r.br.cap := by
  obtain ⟨new, b, h1, h2, -, -⟩ := h
  rw [hl] at h1
  rw [List.self_eq_append_right.mp h1] at h2
  exact h2.nil_inv.1

/-! ## `next` -/

/-- **C09, bookkeeping.** The requests a `next` call makes: `(next fuel r).1.log = r.log ++ new`
where `new` is a well-formed chain starting at the capacity on entry and ending at the final
capacity; `BufferLimit` is returned iff the last request was refused; and every request is
made while the group being parsed does not fit into the capacity passed. -/
theorem next_growth_log (inp : List UInt8) (G : Prop) (fuel : Nat) (r : Reader) (its : List FqItem)
    (hg : Good inp G r its) (hfuel : r.br.src.inp.length + 2 ≤ fuel) :
    ∃ new b, (next fuel r).1.log = r.log ++ new ∧
      GrowLog r.br.cap new (next fuel r).1.br.cap b ∧
      ((next fuel r).2 = .err .bufferLimit ↔ b = true) ∧
      (∀ c a, (c, a) ∈ new → ¬ Fits (inp.drop (nextByte r)) c) :=
  (next_step inp G fuel r its hg hfuel).2

theorem next_no_request_cap (inp : List UInt8) (G : Prop) (fuel : Nat) (r : Reader)
    (its : List FqItem) (hg : Good inp G r its) (hfuel : r.br.src.inp.length + 2 ≤ fuel)
    (h : (next fuel r).1.log = r.log) : (next fuel r).1.br.cap = r.br.cap :=
  Reqs.cap_eq (next_growth_log inp G fuel r its hg hfuel) h

/-! ## fitting groups never make the buffer grow -/

/-- offsets at which groups start: 0, and the offset after the fourth LF of a group -/
inductive IsStart (inp : List UInt8) : Nat → Prop
  | zero : IsStart inp 0
  | step {b e : Nat} : IsStart inp b → nl4 (inp.drop b) = some e → IsStart inp (b + e)

/-- every group of the input (including an unterminated or blank rest) fits into `cap` bytes -/
def AllFit (inp : List UInt8) (cap : Nat) : Prop := ∀ b, IsStart inp b → Fits (inp.drop b) cap

def nextN : Nat → Reader → Reader
  | 0, r => r
  | k + 1, r => nextN k (next (opFuel r.br.src.inp.length r.br.src.script.length) r).1

theorem good_its_at {inp G r its} (h : Good inp G r its) (hst : r.state ≠ .finished) :
    ∃ l, its = itemsAt inp (nextByte r) l := by
  cases hs : r.state with
  | finished => exact absurd hs hst
  | new =>
    simp only [Good, hs] at h
    obtain ⟨-, -, -, hbyte, -, -, hits⟩ := h
    exact ⟨1, by simp only [nextByte, hs, hbyte]; exact hits⟩
  | positioned =>
    simp only [Good, hs] at h
    obtain ⟨-, -, -, hits⟩ := h
    exact ⟨_, by simp only [nextByte, hs]; exact hits⟩
  | parsing =>
    simp only [Good, hs] at h
    obtain ⟨-, -, -, -, -, hits⟩ := h
    exact ⟨_, by simp only [nextByte, hs]; exact hits⟩

theorem good_new_start {inp G r its} (h : Good inp G r its) (hst : r.state = .new) :
    IsStart inp (nextByte r) := by
  simp only [Good, hst] at h
  obtain ⟨-, -, -, hbyte, -⟩ := h
  simp only [nextByte, hst, hbyte]
  exact IsStart.zero

/-- the invariant of `fitting_never_grows`: nothing has been requested, and an unfinished reader
stands at the start of a group -/
structure Quiet (inp : List UInt8) (cap : Nat) (r : Reader) : Prop where
  good : ∃ its, Good inp False r its
  log : r.log = []
  cap : r.br.cap = cap
  start : r.state ≠ .finished → IsStart inp (nextByte r)

/-- from a quiet state an operation whose requests are all made while the next group does not fit
makes none -/
theorem Quiet.no_request {inp cap r r' res} (hfit : AllFit inp cap) (h : Quiet inp cap r)
    (hnf : r.state ≠ .finished)
    (hreq : Reqs (fun c => ¬ Fits (inp.drop (nextByte r)) c) r r' res) :
    r'.log = [] ∧ r'.br.cap = cap := by
  obtain ⟨-, hlog, hcap, hstart⟩ := h
  obtain ⟨new, b, h1, h2, -, h4⟩ := hreq
  cases new with
  | nil => exact ⟨by rw [h1, hlog]; rfl, by rw [h2.nil_inv.1, hcap]⟩
  | cons e rest =>
    have := h4 e.1 e.2 List.mem_cons_self
    rw [h2.head_eq, hcap] at this
    exact absurd (hfit _ (hstart hnf)) this

theorem quiet_next (inp : List UInt8) (cap : Nat) (hfit : AllFit inp cap) (r : Reader)
    (h : Quiet inp cap r) :
    Quiet inp cap (next (opFuel r.br.src.inp.length r.br.src.script.length) r).1 := by
  by_cases hst : r.state = .finished
  · rw [show next _ r = (r, .ok false) by simp only [next, hst]]
    exact h
  obtain ⟨its, hg⟩ := h.good
  have hfuel := opFuel_enough r
  obtain ⟨hl, hc⟩ := h.no_request hfit hst (next_growth_log inp False _ r its hg hfuel)
  rcases next_found inp False _ r its hg hfuel with hF | ⟨-, -, its', hg', hst', -⟩
  · rcases hF with ⟨-, x, its', hi, hsh⟩ | ⟨-, -, hfin⟩ | ⟨e, b, l, -, -, hfin⟩ | ⟨e, -, -, -, hfin⟩
    · refine ⟨⟨its', hsh.good⟩, hl, hc, fun hnf => ?_⟩
      rcases hsh.rest with ⟨hst', -, -, -, h4⟩ | ⟨hst', -⟩
      · obtain ⟨l, hl⟩ := good_its_at hg hst
        simp only [nextByte, hst']
        refine IsStart.step ?_ h4
        rw [← hsh.byte_eq, (itemsAt_head_record (hl ▸ hi)).1]
        exact h.start hst
      · exact absurd hst' hnf
    all_goals exact ⟨⟨[], hfin.good⟩, hl, hc, fun hnf => absurd hfin.1 hnf⟩
  · exact ⟨⟨its', hg'⟩, hl, hc, fun hnf => good_new_start hg' (hst'.resolve_left hnf)⟩

theorem quiet_mkReader (inp : List UInt8) (cap : Nat) (hcap : 3 ≤ cap) (pol : Pol) (hwf : PolWf1 pol)
    (script : List ReadEv) (hs : NoFail script) (chunk : Nat) :
    Quiet inp cap (mkReader inp cap pol script chunk) :=
  ⟨⟨_, good_mkReader_env inp False cap hcap pol hwf nofun script (fun _ => hs) chunk [] fun _ => rfl⟩,
    rfl, rfl, fun _ => IsStart.zero⟩

/-- **C09, corollary.** If every group of the input fits into the initial capacity, the policy
is never asked: the log stays empty and the capacity unchanged for any number of `next`
calls (for any policy that answers more than it is passed or refuses). -/
theorem fitting_never_grows (inp : List UInt8) (cap : Nat) (hcap : 3 ≤ cap) (pol : Pol)
    (hwf : PolWf1 pol) (script : List ReadEv) (hs : NoFail script) (chunk : Nat)
    (hfit : AllFit inp cap) (k : Nat) :
    (nextN k (mkReader inp cap pol script chunk)).log = [] ∧
      (nextN k (mkReader inp cap pol script chunk)).br.cap = cap := by
  have hq : ∀ k r, Quiet inp cap r → Quiet inp cap (nextN k r) := by
    intro k
    induction k with
    | zero => intro r h; exact h
    | succ k ih => intro r h; exact ih _ (quiet_next inp cap hfit r h)
  have := hq k _ (quiet_mkReader inp cap hcap pol hwf script hs chunk)
  exact ⟨this.log, this.cap⟩

end SeqIo.Fastq
