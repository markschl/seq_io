import SeqIoModel.Proofs.AbstractReader
import SeqIoModel.Proofs.FastaHistory
import SeqIoModel.Proofs.FastqHistorySeek
/-!
# Histories whose outcome the abstract reader fixes completely

For single reads, owned reads and seeks to record positions the abstract reader A accepts exactly one
observation per step.  Two runs of the concrete machine that are both accepted (any two
configurations, by the refinement theorems) therefore show the caller the same thing.
-/

namespace SeqIo.Fasta.Hist
open SeqIo.Acceptor

/-- operations for which A accepts exactly one observation -/
def Op.det : Op → Bool
  | .next => true
  | .owned => true
  | .seekRec _ => true
  | _ => false

theorem acceptA_det_eq {it : Items} {a : AState} {op : Op} (hd : op.det = true) :
    ∃ o₀ a₀, ∀ o, acceptA it a op o = if o = o₀ then some a₀ else none := by
  cases op with
  | next | owned =>
    simp only [acceptA]
    cases errDue it a with
    | some e => exact ⟨_, _, fun _ => rfl⟩
    | none =>
      cases it.recs[a.k]? with
      | some rc => exact ⟨_, _, fun _ => rfl⟩
      | none => exact ⟨_, _, fun _ => rfl⟩
  | seekRec i =>
    simp only [acceptA]
    split <;> exact ⟨_, _, fun _ => rfl⟩
  | _ => cases hd

theorem acceptA_det {it : Items} {a a₁ a₂ : AState} {op : Op} {o₁ o₂ : ObsH} (hd : op.det = true)
    (h₁ : acceptA it a op o₁ = some a₁) (h₂ : acceptA it a op o₂ = some a₂) : o₁ = o₂ ∧ a₁ = a₂ := by
  obtain ⟨o₀, a₀, h⟩ := acceptA_det_eq (it := it) (a := a) hd
  rw [h, Option.ite_some_none_eq_some] at h₁ h₂
  exact ⟨h₁.1.trans h₂.1.symm, h₁.2.symm.trans h₂.2⟩

theorem runA_det {it : Items} : ∀ (ops : List Op) (_ : ∀ op ∈ ops, op.det = true) (a : AState)
    (obs₁ obs₂ : List ObsH), runA it a ops obs₁ = true → runA it a ops obs₂ = true → obs₁ = obs₂ :=
  fun _ hd _ _ _ h₁ h₂ =>
    let ⟨_, r₁⟩ := runA_iff.mp h₁
    let ⟨_, r₂⟩ := runA_iff.mp h₂
    r₁.det acceptA_det hd r₂

end SeqIo.Fasta.Hist

namespace SeqIo.Fastq.Hist
open SeqIo SeqIo.Spec SeqIo.Acceptor

/-- operations for which A accepts exactly one observation -/
def Op.det : Op → Bool
  | .next => true
  | .owned => true
  | .seekItem _ => true
  | _ => false

theorem acceptNext_det_eq {items : List FqItem} {a : AState} :
    ∃ o₀ a₀, ∀ o, acceptNext items a o = if o = o₀ then some a₀ else none := by
  unfold acceptNext
  cases items[a.k]? with
  | none => exact ⟨_, _, fun _ => rfl⟩
  | some x => cases x <;> exact ⟨_, _, fun _ => rfl⟩

theorem acceptA_det {items : List FqItem} {a a₁ a₂ : AState} {op : Op} {o₁ o₂ : ObsH} (hd : op.det = true)
    (h₁ : acceptA items a op o₁ = some a₁) (h₂ : acceptA items a op o₂ = some a₂) : o₁ = o₂ ∧ a₁ = a₂ := by
  cases op with
  | next | owned =>
    obtain ⟨o₀, a₀, h⟩ := acceptNext_det_eq (items := items) (a := a)
    rw [acceptA, h, Option.ite_some_none_eq_some] at h₁ h₂
    exact ⟨h₁.1.trans h₂.1.symm, h₁.2.symm.trans h₂.2⟩
  | seekItem i =>
    rcases acceptSeek_inv h₁ with ⟨rfl, hi₁, rfl⟩ | ⟨rfl, hi₁, rfl⟩ <;>
      rcases acceptSeek_inv h₂ with ⟨rfl, hi₂, rfl⟩ | ⟨rfl, hi₂, rfl⟩
    · exact ⟨rfl, rfl⟩
    · omega
    · omega
    · exact ⟨rfl, rfl⟩
  | _ => cases hd

theorem acceptsA_det {items : List FqItem} : ∀ (ops : List Op) (_ : ∀ op ∈ ops, op.det = true) (a : AState)
    (obs₁ obs₂ : List ObsH), acceptsA items a ops obs₁ = true → acceptsA items a ops obs₂ = true → obs₁ = obs₂ :=
  fun _ hd _ _ _ h₁ h₂ =>
    let ⟨_, r₁⟩ := acceptsA_iff.mp h₁
    let ⟨_, r₂⟩ := acceptsA_iff.mp h₂
    r₁.det acceptA_det hd r₂

end SeqIo.Fastq.Hist
