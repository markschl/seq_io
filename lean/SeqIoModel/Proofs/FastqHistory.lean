import SeqIoModel.Proofs.FastqHistorySet
/-!
# FASTQ histories: the simulation with the abstract reader A

`Sim` relates the concrete machine under a history of API calls (`Hist.stepM`) to the abstract
reader (`Hist.acceptA`): cursor `k` into S's items ↔ `Good` reader state for the items from `k` on;
the record sets show the expected records in their buffer snapshots.  Seeks and the theorem are in
`FastqHistorySeek.lean`.
-/

namespace SeqIo.Fastq
open SeqIo SeqIo.Spec SeqIo.FillProofs SeqIo.Fastq.Hist

/-! ## list facts -/

theorem drop_eq_cons {α : Type} {l : List α} {k : Nat} {x : α} {rest : List α}
    (h : l.drop k = x :: rest) : l[k]? = some x ∧ l.drop (k + 1) = rest := by
  constructor
  · have : (l.drop k)[0]? = some x := by rw [h]; rfl
    simpa [List.getElem?_drop] using this
  · have : (l.drop k).drop 1 = rest := by rw [h]; rfl
    rw [List.drop_drop] at this
    rw [← this]

theorem drop_eq_append {α : Type} {l : List α} {k : Nat} {a b : List α}
    (h : l.drop k = a ++ b) : l.drop (k + a.length) = b := by
  have : (l.drop k).drop a.length = b := by rw [h]; simp
  rw [List.drop_drop] at this
  exact this

theorem getElem?_of_drop {α : Type} {l : List α} {k i : Nat} :
    l[k + i]? = (l.drop k)[i]? := by
  simp [List.getElem?_drop]

theorem leadRecs_append (ys : List FqRec) (rest : List FqItem) :
    leadRecs (ys.map FqItem.record ++ rest) = ys.map recOf ++ leadRecs rest := by
  induction ys with
  | nil => rfl
  | cons y ys ih => simp only [List.map_cons, List.cons_append, leadRecs, ih]

theorem leadRecs_err (e : FqErr) (b l : Nat) (rest : List FqItem) :
    leadRecs (FqItem.err e b l :: rest) = [] := rfl

/-! ## sets -/

def slot (j : Nat) : Nat := min j 2

theorem MSt.getSet_putSet (m : MSt) (j i : Nat) (rs : RecordSet) :
    (m.putSet j rs).getSet i = if slot i = slot j then rs else m.getSet i := by
  match j, i with
  | 0, 0 | 0, 1 | 1, 0 | 1, 1 => rfl
  | 0, (_ + 2) | 1, (_ + 2) | (_ + 2), 0 | (_ + 2), 1 | (_ + 2), (_ + 2) =>
    simp [MSt.putSet, MSt.getSet, slot]

theorem AState.getSet_putSet (a : AState) (j i : Nat) (e : ASet) :
    (a.putSet j e).getSet i = if slot i = slot j then e else a.getSet i := by
  match j, i with
  | 0, 0 | 0, 1 | 1, 0 | 1, 1 => rfl
  | 0, (_ + 2) | 1, (_ + 2) | (_ + 2), 0 | (_ + 2), 1 | (_ + 2), (_ + 2) =>
    simp [AState.putSet, AState.getSet, slot]

theorem MSt.putSet_r (m : MSt) (j : Nat) (rs : RecordSet) : (m.putSet j rs).r = m.r := by
  rcases j with _ | _ | j <;> rfl

theorem AState.putSet_k (a : AState) (j : Nat) (e : ASet) :
    (a.putSet j e).k = a.k ∧ (a.putSet j e).last = a.last := by
  rcases j with _ | _ | j <;> exact ⟨rfl, rfl⟩

theorem MSt.getSet_with_r (m : MSt) (r' : Reader) (j : Nat) :
    ({ m with r := r' } : MSt).getSet j = m.getSet j := by
  rcases j with _ | _ | j <;> rfl

theorem AState.getSet_with (a : AState) (k' : Nat) (l' : Last) (j : Nat) :
    ({ a with k := k', last := l' } : AState).getSet j = a.getSet j := by
  rcases j with _ | _ | j <;> rfl

/-- the set shows the expected records (or nothing, if it may have been emptied) -/
def SetSim (rs : RecordSet) (e : ASet) : Prop :=
  ∃ recs, viewAll rs.buffer rs.positions = some recs ∧
    (recs = e.recs ∨ (e.altEmpty = true ∧ recs = []))

/-- the reported position is the one A expects -/
def LastOk (all : List FqItem) (r : Reader) (a : AState) : Prop :=
  match a.last with
  | .none => True
  | .item i => ∃ it, all[i]? = some it ∧ itemPos it = (r.line, r.byte)
  | .set => ∀ x, all[a.k]? = some (.record x) → (x.line, x.byte) = (r.line, r.byte)
  | .seek i => ∃ it, all[i]? = some it ∧ itemPos it = (r.line, r.byte)

structure Sim (inp : List UInt8) (G : Prop) (all : List FqItem) (m : MSt) (a : AState) : Prop where
  good : Good inp G m.r (all.drop a.k)
  sets : ∀ j, SetSim (m.getSet j) (a.getSet j)
  last : LastOk all m.r a

/-- one step of the history is accepted and the simulation goes on – or the environment is not
ideal (a refusing policy, a failing read or seek) -/
def StepOk (inp : List UInt8) (G : Prop) (all : List FqItem) (a : AState) (op : Op)
    (x : MSt × ObsH) : Prop :=
  (∃ a', acceptA all a op x.2 = some a' ∧ Sim inp G all x.1 a') ∨ ¬ G

theorem fuelOf_ge (r : Reader) : 2 * r.br.src.inp.length + 4 ≤ fuelOf r := by
  simp only [fuelOf, opFuel]; omega

theorem step_next (inp : List UInt8) (G : Prop) (all : List FqItem) (m : MSt) (a : AState)
    (hs : Sim inp G all m a) :
    (∃ a', acceptNext all a (stepNext m).2 = some a' ∧ Sim inp G all (stepNext m).1 a') ∨
    ¬ G := by
  have hfuel := fuelOf_ge m.r
  have hF := next_found inp G (fuelOf m.r) m.r _ hs.good (by omega)
  simp only [stepNext]
  rcases hx : next (fuelOf m.r) m.r with ⟨r', res⟩
  rw [hx] at hF
  rcases hF with (⟨hr, x, its', hi, hsh⟩ | ⟨hr, hi, hfin⟩ | ⟨e, b, l, hr, hi, hfin⟩ |
    ⟨e, hr, henv, hG, hfin⟩) | ⟨hG, -⟩
  · simp only at hr hi hsh
    subst hr
    obtain ⟨hk, hd⟩ := drop_eq_cons hi
    refine Or.inl ⟨{ a with k := a.k + 1, last := .item a.k }, ?_, ?_, hs.sets, ?_⟩
    · simp only [acceptNext, hk, obsNext, hsh.view, if_true]
    · simp only [hd]; exact hsh.good
    · exact ⟨_, hk, by simp only [itemPos, hsh.line_eq, hsh.byte_eq]⟩
  · simp only at hr hi hfin
    subst hr
    have hk : all[a.k]? = none := by
      rw [List.getElem?_eq_none_iff]; exact List.drop_eq_nil_iff.mp hi
    refine Or.inl ⟨{ a with last := .none }, ?_, ?_, hs.sets, trivial⟩
    · simp only [acceptNext, hk, obsNext, if_true]
    · simp only [hi]; exact hfin.good
  · simp only at hr hi hfin
    subst hr
    obtain ⟨hk, hd⟩ := drop_eq_cons hi
    refine Or.inl ⟨{ a with k := all.length, last := .none }, ?_, ?_, hs.sets, trivial⟩
    · simp only [acceptNext, hk, obsNext, if_true]
    · simp only [List.drop_length]; exact hfin.good
  · exact Or.inr hG
  · exact Or.inr hG

theorem step_dump (inp : List UInt8) (G : Prop) (all : List FqItem) (m : MSt) (a : AState)
    (hs : Sim inp G all m a) (j : Nat) :
    acceptDump a j (obsDump (m.getSet j)) = some a := by
  obtain ⟨recs, hv, hc⟩ := hs.sets j
  simp only [obsDump, hv, acceptDump]
  rw [if_pos]
  rcases hc with h | ⟨h1, h2⟩
  · exact Or.inl h
  · exact Or.inr ⟨h1, h2⟩

theorem step_pos (inp : List UInt8) (G : Prop) (all : List FqItem) (m : MSt) (a : AState)
    (hs : Sim inp G all m a) :
    acceptPos all a (.position (position m.r).1 (position m.r).2) = some a := by
  have hl := hs.last
  simp only [position, acceptPos, wantPos]
  unfold LastOk at hl
  cases hlast : a.last with
  | none => simp only
  | item i =>
    rw [hlast] at hl
    obtain ⟨it, hi, hp⟩ := hl
    simp only [hi, Option.map_some, hp, if_true]
  | seek i =>
    rw [hlast] at hl
    obtain ⟨it, hi, hp⟩ := hl
    simp only [hi, Option.map_some, hp, if_true]
  | set =>
    rw [hlast] at hl
    simp only at hl
    cases hk : all[a.k]? with
    | none => simp only
    | some it =>
      cases it with
      | record x => simp only [hl x hk, if_true]
      | err e b l => simp only

theorem setSim_empty (rs : RecordSet) (e : ASet) (h : rs.positions = []) :
    SetSim rs { e with altEmpty := true } :=
  ⟨[], by rw [h]; rfl, Or.inr ⟨rfl, rfl⟩⟩

theorem setSim_alt {rs : RecordSet} {e : ASet} (h : SetSim rs e) :
    SetSim rs { e with altEmpty := true } := by
  obtain ⟨recs, hv, hc⟩ := h
  refine ⟨recs, hv, ?_⟩
  rcases hc with h | ⟨-, h⟩
  · exact Or.inl h
  · exact Or.inr ⟨rfl, h⟩

/-- the sets after a call that was handed set `j` -/
theorem sets_after (m : MSt) (a : AState) (r' : Reader) (a0 : AState) (j : Nat) (rs' : RecordSet)
    (e' : ASet) (hs : ∀ i, SetSim (m.getSet i) (a.getSet i))
    (ha0 : ∀ i, a0.getSet i = a.getSet i) (hnew : SetSim rs' e') :
    ∀ i, SetSim ((({ m with r := r' } : MSt).putSet j rs').getSet i) ((a0.putSet j e').getSet i) := by
  intro i
  rw [MSt.getSet_putSet, AState.getSet_putSet]
  by_cases h : slot i = slot j
  · rw [if_pos h, if_pos h]; exact hnew
  · rw [if_neg h, if_neg h, ha0]
    rw [MSt.getSet_with_r]; exact hs i

theorem step_set (inp : List UInt8) (G : Prop) (all : List FqItem) (m : MSt) (a : AState)
    (hs : Sim inp G all m a) (j : Nat) (n : Option Nat) (hn : ∀ n', n = some n' → 1 ≤ n') :
    (∃ a', acceptSet all a j n (stepSet m j n).2 = some a' ∧ Sim inp G all (stepSet m j n).1 a') ∨
    ¬ G := by
  have hR := readSet_spec inp G (fuelOf m.r) m.r (m.getSet j) n _ hs.good (fuelOf_ge m.r) hn
  simp only [stepSet]
  rcases hx : readRecordSetExact (fuelOf m.r) m.r (m.getSet j) n with ⟨r', rs', res⟩
  rw [hx] at hR
  rcases hR with ⟨hr, ys, its', hi, hv, hne, hl, hc⟩ | ⟨hr, hi, hfin, hrs⟩ |
    ⟨ys, e, b, l, hr, hi, hp, hfin, hc⟩ | ⟨e, hr, henv, hG, hp, hfin⟩ | ⟨hG, -⟩
  · -- a batch
    simp only at hr hv hl hc
    subst hr
    have hlen : rs'.positions.length = ys.length := by
      have := viewAll_length hv; simp only [List.length_map] at this; exact this.symm
    have hahead : leadRecs (all.drop a.k) = ys.map recOf ++ leadRecs its' := by
      rw [hi, leadRecs_append]
    have htake : (leadRecs (all.drop a.k)).take ys.length = ys.map recOf := by
      rw [hahead, List.take_append_of_le_length (by simp), List.take_of_length_le (by simp)]
    have hdrop : all.drop (a.k + ys.length) = its' := by
      have := drop_eq_append hi
      simpa only [List.length_map] using this
    have hpos : 1 ≤ ys.length := by
      cases ys with
      | nil => exact absurd rfl hne
      | cons => simp
    have hok : batchOk n ys.length (leadRecs (all.drop a.k)).length
        (all[a.k + (leadRecs (all.drop a.k)).length]?).isSome = true := by
      have hal : (leadRecs (all.drop a.k)).length = ys.length + (leadRecs its').length := by
        rw [hahead]; simp
      cases n with
      | none => simp only [batchOk, decide_eq_true_eq]; omega
      | some n' =>
        simp only [batchOk, decide_eq_true_eq]
        rcases hc n' rfl with h1 | ⟨h1, h2⟩
        · refine ⟨hpos, by omega, ?_⟩
          intro hh; omega
        · subst h1
          have hal' : (leadRecs (all.drop a.k)).length = ys.length := by
            rw [hal]; simp [leadRecs]
          refine ⟨hpos, by omega, ?_⟩
          intro hh
          have : all[a.k + (leadRecs (all.drop a.k)).length]? = none := by
            rw [hal', getElem?_of_drop, hi]; simp
          rw [this] at hh
          simp at hh
    refine Or.inl ⟨({ a with k := a.k + ys.length, last := .set } : AState).putSet j
      { recs := ys.map recOf, altEmpty := false }, ?_, ?_, ?_, ?_⟩
    · simp only [acceptSet, obsSet, hlen, hok, if_true, htake]
    · rw [MSt.putSet_r, (AState.putSet_k _ _ _).1]
      simp only [hdrop]
      exact hl.1
    · exact sets_after m a r' _ j rs' _ hs.sets (AState.getSet_with a _ _) ⟨_, hv, Or.inl rfl⟩
    · unfold LastOk
      rw [MSt.putSet_r, (AState.putSet_k _ _ _).2, (AState.putSet_k _ _ _).1]
      simp only
      intro x hxk
      have hx0 : its'[0]? = some (.record x) := by
        rw [← hdrop]; simpa [List.getElem?_drop] using hxk
      rcases hl.2 with hst | hst
      · have hg := hl.1
        simp only [Good, hst] at hg
        obtain ⟨-, -, -, hits⟩ := hg
        cases hits' : its' with
        | nil => rw [hits'] at hx0; cases hx0
        | cons y rest =>
          rw [hits'] at hx0
          simp only [List.getElem?_cons_zero, Option.some.injEq] at hx0
          subst hx0
          have := itemsAt_head_record (hits ▸ hits')
          rw [this.1, this.2]
      · have hg := hl.1
        simp only [Good, hst] at hg
        rw [hg.2] at hx0
        cases hx0
  · -- the end
    simp only at hr hi hfin hrs
    subst hr
    have hk : all.length ≤ a.k := List.drop_eq_nil_iff.mp hi
    refine Or.inl ⟨({ a with last := .none } : AState).putSet j
      { a.getSet j with altEmpty := true }, ?_, ?_, ?_, ?_⟩
    · simp only [acceptSet, obsSet, hk, if_true]
    · rw [MSt.putSet_r, (AState.putSet_k _ _ _).1]
      simp only [hi]
      exact hfin.good
    · refine sets_after m a r' _ j rs' _ hs.sets (AState.getSet_with a _ _) ?_
      rcases hrs with h | h
      · rw [h]; exact setSim_alt (hs.sets j)
      · exact setSim_empty rs' _ h
    · unfold LastOk
      rw [(AState.putSet_k _ _ _).2]
      trivial
  · -- the error ahead
    simp only at hr hi hfin hp hc
    subst hr
    have hahead : leadRecs (all.drop a.k) = ys.map recOf := by
      rw [hi, leadRecs_append, leadRecs_err, List.append_nil]
    have herr : all[a.k + (leadRecs (all.drop a.k)).length]? = some (.err e b l) := by
      rw [hahead, getElem?_of_drop, hi]; simp
    have hreach : reachedErr n (leadRecs (all.drop a.k)).length = true := by
      cases n with
      | none => rfl
      | some n' =>
        have := hc n' rfl
        simp only [reachedErr, decide_eq_true_eq, hahead, List.length_map]
        exact this
    refine Or.inl ⟨({ a with k := all.length, last := .none } : AState).putSet j
      { a.getSet j with altEmpty := true }, ?_, ?_, ?_, ?_⟩
    · simp only [acceptSet, obsSet, herr, hreach, and_self, if_true]
    · rw [MSt.putSet_r, (AState.putSet_k _ _ _).1]
      simp only [List.drop_length]
      exact hfin.good
    · exact sets_after m a r' _ j rs' _ hs.sets (AState.getSet_with a _ _) (setSim_empty rs' _ hp)
    · unfold LastOk
      rw [(AState.putSet_k _ _ _).2]
      trivial
  · exact Or.inr hG
  · exact Or.inr hG

/-! ## well-formed operations, the initial state -/

def noSeek : Op → Bool
  | .seekItem _ => false
  | _ => true

theorem wf_set {j : Nat} {n : Option Nat} (h : (Op.set j n).wf = true) :
    ∀ n', n = some n' → 1 ≤ n' := by
  intro n' hn
  subst hn
  simp only [Op.wf, Bool.and_eq_true, decide_eq_true_eq] at h
  exact h.2

theorem sim_mkM (inp : List UInt8) (G : Prop) (cap : Nat) (hcap : 3 ≤ cap) (pol : Pol)
    (hwf : PolWf1 pol) (hg : G → PolGrows pol) (script : List ReadEv) (hs : NoFail script)
    (chunk : Nat) : Sim inp G (Spec.fastq inp) (mkM inp cap pol script chunk) {} := by
  refine ⟨good_mkReader_env inp G cap hcap pol hwf hg script (fun _ => hs) chunk [] fun _ => rfl, ?_,
    trivial⟩
  intro j
  refine ⟨[], ?_, Or.inl ?_⟩ <;> rcases j with _ | _ | j <;> rfl

end SeqIo.Fastq
