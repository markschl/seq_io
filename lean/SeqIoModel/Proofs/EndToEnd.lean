import SeqIoModel.Proofs.FastaStream
import SeqIoModel.Proofs.FastqStream
import SeqIoModel.Proofs.WriteRoundtrip
import SeqIoModel.Proofs.Recode
/-!
# What a caller of the readers sees of written and re-encoded files

The round-trip theorems (properties C10, C11) and the recoding theorems (C12) speak about the reference
semantics `Spec.fasta` / `Spec.fastq`.  `fasta_next_stream` / `fastq_next_stream` say that `k` calls of
`next()` show that stream, for every capacity, policy and chunking.  Composed, they speak about what a
caller of the reader API observes.
-/

namespace SeqIo.E2E
open SeqIo SeqIo.Spec SeqIo.FillProofs

/-- what `k` calls of `next()` show, given the verdict of the reference semantics -/
theorem fasta_runNexts_of_spec (inp : List UInt8) (rs : List FaRec) (hrs : Spec.fasta inp = .records rs)
    (cap : Nat) (hcap : 3 ≤ cap) (pol : Pol) (hpol : PolOk pol) (script : List ReadEv) (hs : NoFail script)
    (chunk k : Nat) :
    Fasta.runNexts k (Fasta.mkReader inp cap pol script chunk) =
      (rs.map (fun r => Fasta.Obs.record r.head r.seqLines r.line r.byte) ++ List.replicate k Fasta.Obs.none).take k := by
  rw [Fasta.fasta_next_stream inp cap hcap pol hpol script hs chunk k]
  simp [Fasta.specObs, hrs]

/-- C10 for a caller: a record written by `write_to` / `OwnedRecord::write` and read back with the FASTA
reader – any capacity ≥ 3, never-refusing policy, chunking – is returned as exactly that header and
sequence, then end of input -/
theorem fasta_written_record_reads_back (h s : List UInt8) (hh : HeadOk h) (hsq : SeqOk s)
    (cap : Nat) (hcap : 3 ≤ cap) (pol : Pol) (hpol : PolOk pol) (script : List ReadEv) (hs : NoFail script)
    (chunk k : Nat) :
    ∃ r : FaRec, r.head = h ∧ r.seq = s ∧ r.byte = 0 ∧ r.line = 1 ∧
      Fasta.runNexts k (Fasta.mkReader (Write.faTo h s) cap pol script chunk) =
        ([Fasta.Obs.record r.head r.seqLines r.line r.byte] ++ List.replicate k Fasta.Obs.none).take k := by
  obtain ⟨r, hspec, h1, h2, h3, h4⟩ := WriteProofs.fasta_faTo_roundtrip h s hh hsq
  refine ⟨r, h1, h2, h3, h4, ?_⟩
  simpa using fasta_runNexts_of_spec _ [r] hspec cap hcap pol hpol script hs chunk k

/-- the same for records written back to back: they come back in order with their headers and sequences -/
theorem fasta_written_records_read_back (rs : List (List UInt8 × List UInt8))
    (hok : ∀ p ∈ rs, HeadOk p.1 ∧ SeqOk p.2)
    (cap : Nat) (hcap : 3 ≤ cap) (pol : Pol) (hpol : PolOk pol) (script : List ReadEv) (hs : NoFail script)
    (chunk k : Nat) :
    ∃ recs : List FaRec, recs.map (fun r => (r.head, r.seq)) = rs ∧
      Fasta.runNexts k (Fasta.mkReader (rs.flatMap fun p => Write.faTo p.1 p.2) cap pol script chunk) =
        (recs.map (fun r => Fasta.Obs.record r.head r.seqLines r.line r.byte) ++ List.replicate k Fasta.Obs.none).take k := by
  obtain ⟨recs, hspec, hm⟩ := WriteProofs.fasta_many_roundtrip rs hok
  exact ⟨recs, hm, fasta_runNexts_of_spec _ recs hspec cap hcap pol hpol script hs chunk k⟩

/-- the same for a record written by `OwnedRecord::write_wrap` at any width `w > 0` -/
theorem fasta_wrapped_record_reads_back (h s : List UInt8) (w : Nat) (hw : 0 < w) (hh : HeadOk h)
    (hsq : SeqOk s) (cap : Nat) (hcap : 3 ≤ cap) (pol : Pol) (hpol : PolOk pol) (script : List ReadEv)
    (hs : NoFail script) (chunk k : Nat) :
    ∃ (out : List UInt8) (r : FaRec), Write.faOwnedWrap h s w = some out ∧ r.head = h ∧ r.seq = s ∧
      Fasta.runNexts k (Fasta.mkReader out cap pol script chunk) =
        ([Fasta.Obs.record r.head r.seqLines r.line r.byte] ++ List.replicate k Fasta.Obs.none).take k := by
  obtain ⟨out, r, ho, hspec, h1, h2⟩ := WriteProofs.fasta_wrap_roundtrip h s w hw hh hsq
  refine ⟨out, r, ho, h1, h2, ?_⟩
  simpa using fasta_runNexts_of_spec _ [r] hspec cap hcap pol hpol script hs chunk k

/-- two lists of records that agree on what `proj` keeps show the same through `n`, which forgets
the rest -/
theorem map_take_pad_congr {α β γ : Type} (f : α → β) (n : β → β) (proj : α → γ) (g : γ → β)
    (hfg : ∀ a, n (f a) = g (proj a)) {rs rs' : List α} (h : rs.map proj = rs'.map proj)
    (pad : List β) (k : Nat) :
    ((rs.map f ++ pad).take k).map n = ((rs'.map f ++ pad).take k).map n := by
  have key : ∀ l : List α, (l.map f).map n = (l.map proj).map g := by
    intro l; simp [hfg]
  rw [List.map_take, List.map_take, List.map_append, List.map_append, key, key, h]

/-- an observation without its byte offset (the offset legitimately depends on the encoding) -/
def faNoByte : Fasta.Obs → Fasta.Obs
  | .record h ls line _ => .record h ls line 0
  | o => o

/-- C12 for a caller, FASTA: two encodings of the same content – ANY per-line mixtures of LF and CRLF, with or
without final terminator – read with two arbitrary configurations show the same records with the same
sequence lines and line numbers, and no error, call by call -/
theorem fasta_encodings_read_identically (recs : List (List UInt8 × List (List UInt8))) (hok : Recode.FaOk recs)
    (terms terms' : Nat → Recode.Term) (final final' : Bool)
    (cap cap' : Nat) (hcap : 3 ≤ cap) (hcap' : 3 ≤ cap') (pol pol' : Pol) (hpol : PolOk pol) (hpol' : PolOk pol')
    (script script' : List ReadEv) (hs : NoFail script) (hs' : NoFail script') (chunk chunk' k : Nat) :
    (Fasta.runNexts k (Fasta.mkReader (Recode.encodeFasta recs terms final) cap pol script chunk)).map faNoByte =
    (Fasta.runNexts k (Fasta.mkReader (Recode.encodeFasta recs terms' final') cap' pol' script' chunk')).map faNoByte := by
  obtain ⟨rs, h1, e1⟩ := Recode.fasta_recode_invariant recs hok terms final
  obtain ⟨rs', h2, e2⟩ := Recode.fasta_recode_invariant recs hok terms' final'
  rw [fasta_runNexts_of_spec _ rs h1 cap hcap pol hpol script hs chunk k,
      fasta_runNexts_of_spec _ rs' h2 cap' hcap' pol' hpol' script' hs' chunk' k]
  exact map_take_pad_congr _ faNoByte (fun r => (r.head, r.seqLines, r.line))
    (fun t => Fasta.Obs.record t.1 t.2.1 t.2.2 0) (fun _ => rfl) (e1.trans e2.symm) _ k

def fqNoByte : Fastq.Obs → Fastq.Obs
  | .record h s q line _ => .record h s q line 0
  | o => o

theorem fastq_runNexts_of_records (inp : List UInt8) (rs : List FqRec)
    (hrs : Spec.fastq inp = rs.map FqItem.record)
    (cap : Nat) (hcap : 3 ≤ cap) (pol : Pol) (hpol : PolOk pol) (script : List ReadEv) (hs : NoFail script)
    (chunk k : Nat) :
    Fastq.runNexts k (Fastq.mkReader inp cap pol script chunk) =
      (rs.map (fun r => Fastq.Obs.record r.head r.seq r.qual r.line r.byte) ++ List.replicate k Fastq.Obs.none).take k := by
  rw [Fastq.fastq_next_stream inp cap hcap pol hpol script hs chunk k]
  simp [Fastq.specObs, hrs, Function.comp_def]

/-- C12 for a caller, FASTQ: the LF and the CRLF version of a file, with or without the final
terminator, read with two arbitrary configurations, show the same call by call up to byte offsets -/
theorem fastq_encodings_read_identically (recs : List Recode.FqContent) (hok : Recode.FqOk recs)
    (t t' : Recode.Term) (final final' : Bool)
    (cap cap' : Nat) (hcap : 3 ≤ cap) (hcap' : 3 ≤ cap') (pol pol' : Pol) (hpol : PolOk pol) (hpol' : PolOk pol')
    (script script' : List ReadEv) (hs : NoFail script) (hs' : NoFail script') (chunk chunk' k : Nat) :
    (Fastq.runNexts k (Fastq.mkReader (Recode.encodeFastq recs t final) cap pol script chunk)).map fqNoByte =
    (Fastq.runNexts k (Fastq.mkReader (Recode.encodeFastq recs t' final') cap' pol' script' chunk')).map fqNoByte := by
  obtain ⟨rs, h1, e1⟩ := Recode.fastq_recode_invariant recs hok t final
  obtain ⟨rs', h2, e2⟩ := Recode.fastq_recode_invariant recs hok t' final'
  rw [fastq_runNexts_of_records _ rs h1 cap hcap pol hpol script hs chunk k,
      fastq_runNexts_of_records _ rs' h2 cap' hcap' pol' hpol' script' hs' chunk' k]
  exact map_take_pad_congr _ fqNoByte (fun r => (r.head, r.seq, r.qual, r.line))
    (fun t => Fastq.Obs.record t.1 t.2.1 t.2.2.1 t.2.2.2 0) (fun _ => rfl) (e1.trans e2.symm) _ k

/-- C11 for a caller: a FASTQ record written by `write_to` and read back at any configuration -/
theorem fastq_written_record_reads_back (h s q : List UInt8) (hh : HeadOk h) (hsq : FieldOk s)
    (hq : FieldOk q) (hl : s.length = q.length)
    (cap : Nat) (hcap : 3 ≤ cap) (pol : Pol) (hpol : PolOk pol) (script : List ReadEv) (hs : NoFail script)
    (chunk k : Nat) :
    Fastq.runNexts k (Fastq.mkReader (Write.fqTo h s q) cap pol script chunk) =
      ([Fastq.Obs.record h s q 1 0] ++ List.replicate k Fastq.Obs.none).take k := by
  have := fastq_runNexts_of_records (Write.fqTo h s q) [{ byte := 0, line := 1, head := h, seq := s, qual := q }]
    (by simpa using WriteProofs.fastq_fqTo_roundtrip h s q hh hsq hq hl) cap hcap pol hpol script hs chunk k
  simpa using this

end SeqIo.E2E
