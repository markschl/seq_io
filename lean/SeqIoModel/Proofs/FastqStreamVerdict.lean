import SeqIoModel.Model.Spec
/-!
# The length verdict of `Spec.fqGroup` (repaired semantics, `strict = false`)

A group with a valid start and separator byte is a record iff the CR-trimmed lengths of the
sequence and quality pieces agree, or – only when the quality line is ended by a terminator
(`atEof = false`) – their raw lengths agree.  With the same terminator on both lines, and
always at the end of the input, this is exactly the comparison of the trimmed lengths.
-/

namespace SeqIo.Fastq
open SeqIo SeqIo.Spec

theorem trimCr_length (l : List UInt8) :
    (trimCr l).length = if l.getLast? = some CR then l.length - 1 else l.length := by
  unfold trimCr
  cases h : l.getLast? with
  | none => simp
  | some c =>
    by_cases hc : c = CR
    · simp [hc]
    · simp [hc]

/-- `fqGroup false` as a chain of tests with the length condition in normal form -/
theorem fqGroup_false_eq (h s p q : List UInt8) (byte line : Nat) (atEof : Bool) :
    fqGroup false h s p q byte line atEof =
      if h.headD LF ≠ AT then .err (.invalidStart (h.headD LF) line) byte line
      else if p.headD LF ≠ PLUS then .err (.invalidSep (p.headD LF) (line + 2) (errId h)) byte line
      else if (s.length ≠ q.length ∨ atEof = true) ∧ (trimCr s).length ≠ (trimCr q).length then
        .err (.unequalLengths (trimCr s).length (trimCr q).length line (errId h)) byte line
      else .record { byte := byte, line := line, head := trimCr (h.drop 1), seq := trimCr s,
                     qual := trimCr q } := by
  simp only [fqGroup]
  have hc : ((s.length ≠ q.length ∧ (false = true ∨ (trimCr s).length ≠ (trimCr q).length)) ∨
      (atEof = true ∧ ¬ false = true ∧ (trimCr s).length ≠ (trimCr q).length)) ↔
      ((s.length ≠ q.length ∨ atEof = true) ∧ (trimCr s).length ≠ (trimCr q).length) := by
    cases atEof <;> simp
  simp only [hc]

/-- at the end of the input the verdict of the terminated case is refined by the comparison of
the trimmed lengths -/
theorem fqGroup_eof (h s p q : List UInt8) (byte line : Nat) :
    fqGroup false h s p q byte line true =
      match fqGroup false h s p q byte line false with
      | .record x =>
        if x.seq.length ≠ x.qual.length then
          .err (.unequalLengths x.seq.length x.qual.length line (errId h)) byte line
        else .record x
      | .err e b l => .err e b l := by
  rw [fqGroup_false_eq, fqGroup_false_eq]
  by_cases c0 : h.headD LF ≠ AT
  · rw [if_pos c0, if_pos c0]
  · rw [if_neg c0, if_neg c0]
    by_cases c2 : p.headD LF ≠ PLUS
    · rw [if_pos c2, if_pos c2]
    · rw [if_neg c2, if_neg c2]
      by_cases ct : (trimCr s).length ≠ (trimCr q).length
      · rw [if_pos ⟨Or.inr rfl, ct⟩]
        by_cases cr : s.length ≠ q.length
        · rw [if_pos ⟨Or.inl cr, ct⟩]
        · rw [if_neg (by rintro ⟨a | a, -⟩; exact cr a; cases a)]
          simp only [ct, ne_eq, not_false_eq_true, if_true]
      · rw [if_neg (fun hh => ct hh.2), if_neg (fun hh => ct hh.2)]
        simp only [ct, if_false]

/-- the verdict, unconditionally -/
theorem fqGroup_record_iff (h s p q : List UInt8) (byte line : Nat) (atEof : Bool)
    (hh : h.head? = some AT) (hp : p.head? = some PLUS) :
    (∃ r, fqGroup false h s p q byte line atEof = .record r) ↔
      ((s.length = q.length ∧ atEof = false) ∨ (trimCr s).length = (trimCr q).length) := by
  have h0 : h.headD LF = AT := by rw [List.headD_eq_head?_getD, hh]; rfl
  have h2 : p.headD LF = PLUS := by rw [List.headD_eq_head?_getD, hp]; rfl
  rw [fqGroup_false_eq]
  simp only [h0, h2, ne_eq, not_true_eq_false, if_false]
  by_cases c : (¬ s.length = q.length ∨ atEof = true) ∧ ¬ (trimCr s).length = (trimCr q).length
  · rw [if_pos c]
    constructor
    · rintro ⟨r, hr⟩; cases hr
    · rintro (⟨e, e'⟩ | e)
      · rcases c.1 with c1 | c1
        · exact absurd e c1
        · rw [e'] at c1; cases c1
      · exact absurd e c.2
  · rw [if_neg c]
    constructor
    · intro _
      by_cases e' : (trimCr s).length = (trimCr q).length
      · exact Or.inr e'
      · left
        constructor
        · by_cases e : s.length = q.length
          · exact e
          · exact absurd ⟨Or.inl e, e'⟩ c
        · cases atEof with
          | false => rfl
          | true => exact absurd ⟨Or.inr rfl, e'⟩ c
    · intro _; exact ⟨_, rfl⟩

/-- terminated quality line: when equal raw lengths come with equal terminators the verdict is
the comparison of the trimmed lengths -/
theorem fqGroup_length_verdict' (h s p q : List UInt8) (byte line : Nat)
    (hh : h.head? = some AT) (hp : p.head? = some PLUS)
    (hterm : s.length = q.length → (s.getLast? = some CR ↔ q.getLast? = some CR)) :
    (∃ r, fqGroup false h s p q byte line false = .record r) ↔
      (trimCr s).length = (trimCr q).length := by
  rw [fqGroup_record_iff h s p q byte line false hh hp]
  constructor
  · intro hor
    rcases hor with ⟨e, -⟩ | e
    · have ht := hterm e
      rw [trimCr_length, trimCr_length]
      by_cases hs : s.getLast? = some CR
      · rw [if_pos hs, if_pos (ht.mp hs), e]
      · rw [if_neg hs, if_neg (fun hq => hs (ht.mpr hq)), e]
    · exact e
  · exact Or.inr

/-- terminated quality line (`atEof = false`): same terminator on both lines ⇒ verdict =
trimmed comparison -/
theorem fqGroup_length_verdict (h s p q : List UInt8) (byte line : Nat)
    (hh : h.head? = some AT) (hp : p.head? = some PLUS)
    (hterm : s.getLast? = some CR ↔ q.getLast? = some CR) :
    (∃ r, Spec.fqGroup false h s p q byte line false = .record r) ↔
      (trimCr s).length = (trimCr q).length :=
  fqGroup_length_verdict' h s p q byte line hh hp (fun _ => hterm)

/-- quality line ended by the end of the input (`atEof = true`): the verdict is the trimmed
comparison, unconditionally -/
theorem fqGroup_length_verdict_eof (h s p q : List UInt8) (byte line : Nat)
    (hh : h.head? = some AT) (hp : p.head? = some PLUS) :
    (∃ r, Spec.fqGroup false h s p q byte line true = .record r) ↔
      (trimCr s).length = (trimCr q).length := by
  rw [fqGroup_record_iff h s p q byte line true hh hp]
  constructor
  · rintro (⟨-, e⟩ | e)
    · cases e
    · exact e
  · exact Or.inr

/-- the hypothesis of `fqGroup_length_verdict'` is also necessary: for a terminated quality line
the verdict is the comparison of the trimmed lengths **iff** equal raw lengths come with equal
terminators -/
theorem fqGroup_length_verdict_iff (h s p q : List UInt8) (byte line : Nat)
    (hh : h.head? = some AT) (hp : p.head? = some PLUS) :
    ((∃ r, fqGroup false h s p q byte line false = .record r) ↔
        (trimCr s).length = (trimCr q).length) ↔
      (s.length = q.length → (s.getLast? = some CR ↔ q.getLast? = some CR)) := by
  constructor
  · intro hiff e
    rw [fqGroup_record_iff h s p q byte line false hh hp] at hiff
    have ht := hiff.mp (Or.inl ⟨e, rfl⟩)
    rw [trimCr_length, trimCr_length] at ht
    have hpos : ∀ l : List UInt8, l.getLast? = some CR → 0 < l.length := by
      intro l hl
      cases l with
      | nil => simp at hl
      | cons => simp
    by_cases hs : s.getLast? = some CR <;> by_cases hq : q.getLast? = some CR
    · exact ⟨fun _ => hq, fun _ => hs⟩
    · rw [if_pos hs, if_neg hq] at ht
      have := hpos s hs
      omega
    · rw [if_neg hs, if_pos hq] at ht
      have := hpos q hq
      omega
    · exact ⟨fun h' => absurd h' hs, fun h' => absurd h' hq⟩
  · exact fqGroup_length_verdict' h s p q byte line hh hp

/-- the original (`strict = true`) behaviour, and the terminated case of the repaired one, accept
on equal raw lengths: sequence `AC\r`, quality `III` gives a record with 2 sequence bytes and
3 quality bytes … -/
theorem fqGroup_raw_equal_accepts (strict : Bool) :
    fqGroup strict [AT, 97] [65, 67, CR] [PLUS] [73, 73, 73] 0 1 false =
      .record { byte := 0, line := 1, head := [97], seq := [65, 67], qual := [73, 73, 73] } := by
  cases strict <;> decide

/-- … which the repaired semantics rejects when `III` is ended by the end of the input -/
theorem fqGroup_raw_equal_rejected_at_eof :
    fqGroup false [AT, 97] [65, 67, CR] [PLUS] [73, 73, 73] 0 1 true =
      .err (.unequalLengths 2 3 1 (some [97])) 0 1 := by
  decide

end SeqIo.Fastq
