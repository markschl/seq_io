import SeqIoModel.Model.Alloc
/-!
# Ghost capacities, FASTQ: the post-hoc ghost step is justified by the machine

`Alloc.Fq.setStep` counts one `push` per position the set holds after a successful call.  That is legitimate
because `read_record_set_exact` clears `buf_positions` once at the start and then only appends (one position
per stored record); only the error arms clear it again (and then the ghost step gives up exactness).
-/

namespace SeqIo.Alloc.Fq
open SeqIo SeqIo.Fastq

theorem storeStep_positions {n : Option Nat} {r r' : Reader} {rs rs' : RecordSet} {b : Bool}
    (h : storeStep n r rs = some (r', rs', b)) : rs.positions <+: rs'.positions := by
  unfold storeStep at h
  split at h <;> cases h
  exact List.prefix_append _ _

/-- unless the loop ends in an error, the positions the set had are a prefix of those it has afterwards: the vector
only grows, one `push` at a time -/
theorem setLoop_positions_prefix (f fuel : Nat) (n : Option Nat) (isNew : Bool) (r : Reader) (rs : RecordSet) :
    (∃ e, (setLoop f fuel n isNew r rs).2.2 = .err e) ∨
      rs.positions <+: (setLoop f fuel n isNew r rs).2.1.positions := by
  fun_induction setLoop f fuel n isNew r rs
  -- the loop is left or goes round with the set as it is, or after storing one record
  any_goals exact Or.inr (List.prefix_refl _)
  any_goals exact Or.inl ⟨_, rfl⟩
  any_goals assumption
  all_goals have h := storeStep_positions ‹_›
  · exact Or.inr h
  · exact ‹_ ∨ _›.imp_right h.trans
  · exact Or.inr h
  · exact ‹_ ∨ _›.imp_right h.trans
end SeqIo.Alloc.Fq
