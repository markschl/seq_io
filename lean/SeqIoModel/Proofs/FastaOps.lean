import SeqIoModel.Model.Fasta
import SeqIoModel.Proofs.Fill
/-!
# The FASTA reader's operations: one unfolding equation each, and what each leaves alone

The bodies of `nextCont`, `setLoop` and `readRecordSetExact` are cut into named parts (`nextTail`,
`storeK`, `afterMiss`, `setPost`); a proof about one of them states its sub-goals with these names
and never repeats a `match` of the model.  `enter` is the state dispatch that `next` and
`readRecordSetExact` start with.

`LC r r'` says that log, policy and capacity are untouched; it holds of everything a reader does
except `grow`, for every read script.
-/
open SeqIo SeqIo.FillProofs

namespace SeqIo.Fasta.Fault

/-- the part of `nextCont` behind the first `search` -/
def nextTail (fu : Nat) (r1 : Reader) : Reader × Res Bool :=
  if r1.state = .incomplete then
    match resume fu true r1 with
    | (r2, .ok true) => (if r2.state ≠ .finished then { r2 with state := .parsing } else r2, .ok true)
    | (r2, o) => (r2, o)
  else (r1, .ok true)

theorem nextCont_eq (fu : Nat) (r : Reader) :
    nextCont fu r =
      match (if r.state ≠ .incomplete then (search r).map (·.1) else some r) with
      | none => (r, .panic)
      | some r1 => nextTail fu r1 := rfl

theorem nextCont_of_incomplete {fu : Nat} {r : Reader} (h : r.state = .incomplete) :
    nextCont fu r = nextTail fu r := by
  rw [nextCont_eq, if_neg (fun h' => h' h)]

theorem nextCont_of_search {fu : Nat} {r : Reader} (h : r.state ≠ .incomplete) :
    nextCont fu r =
      match search r with
      | none => (r, .panic)
      | some q => nextTail fu q.1 := by
  rw [nextCont_eq, if_pos h]
  cases search r <;> rfl

theorem nextCont_of_search_eq {fu : Nat} {r r1 : Reader} {b : Bool} (h : r.state ≠ .incomplete)
    (hs : search r = some (r1, b)) : nextCont fu r = nextTail fu r1 := by
  rw [nextCont_of_search h, hs]

/-- store the record and go on -/
def storeK (f fu : Nat) (n : Option Nat) (isNew : Bool) (r : Reader) (rs : RecordSet) :
    Reader × RecordSet × Res Bool :=
  match storeStep n r rs with
  | none => (r, rs, .panic)
  | some (r, rs, true) => (r, rs, .ok true)
  | some (r, rs, false) => setLoop f fu n isNew r rs

/-- the loop behind an unsuccessful `search` -/
def afterMiss (f fu : Nat) (n : Option Nat) (isNew : Bool) (r : Reader) (rs : RecordSet) :
    Reader × RecordSet × Res Bool :=
  if rs.npos = 0 then setLoop f fu n isNew r rs
  else match n with
    | some n' => if rs.npos < n' then setLoop f fu n false r rs else (r, rs, .ok true)
    | none => (r, rs, .ok true)

theorem setLoop_eq (f fu : Nat) (n : Option Nat) (isNew : Bool) (r : Reader) (rs : RecordSet) :
    setLoop (f + 1) fu n isNew r rs =
      if r.state = .finished then (r, rs, .ok true)
      else if r.state = .incomplete then
        match resume fu isNew r with
        | (r, .ok true) =>
          storeK f fu n isNew (if r.state ≠ .finished then { r with state := .positioned } else r) rs
        | (r, .ok false) => (r, rs, .ok false)
        | (r, .err e) => (r, { rs with npos := 0 }, .err e)
        | (r, .panic) => (r, rs, .panic)
        | (r, .fuel) => (r, rs, .fuel)
      else
        match search r with
        | none => (r, rs, .panic)
        | some (r, false) => afterMiss f fu n isNew r rs
        | some (r, true) => storeK f fu n isNew r rs := rfl

/-- `read_record_set_exact` behind the state dispatch `enter`: the loop and the copy of the buffer -/
def setPost (fu : Nat) (n : Option Nat) (rs : RecordSet) (pre : Reader × Res Bool) :
    Reader × RecordSet × Res Bool :=
  match pre with
  | (r, .ok true) =>
    match setLoop fu fu n true r { rs with npos := 0 } with
    | (r, rs, .ok true) => (r, { rs with buffer := r.br.buf }, .ok true)
    | x => x
  | (r, .ok false) => (r, rs, .ok false)
  | (r, .err e) => (r, rs, .err e)
  | (r, .panic) => (r, rs, .panic)
  | (r, .fuel) => (r, rs, .fuel)

end SeqIo.Fasta.Fault

namespace SeqIo.Fasta

/-- the state dispatch at the start of `next` and `read_record_set_exact`: a new reader is
initialised, after a `next` the reader moves on to the following record; the record to read is then
pending in state `st`, or in state `incomplete` if an earlier search for it was interrupted -/
def enter (fuel : Nat) (st : State) (r : Reader) : Reader × Res Bool :=
  match r.state with
  | .new =>
    match init fuel r with
    | (r, .ok true) => ({ r with state := st }, .ok true)
    | x => x
  | .finished => (r, .ok false)
  | .parsing =>
    match incrementRecord r with
    | some r => ({ r with state := st }, .ok true)
    | none => (r, .panic)
  | .positioned => ({ r with state := st }, .ok true)
  | .incomplete => (r, .ok true)

theorem next_enter (fuel : Nat) (r : Reader) :
    next fuel r =
      match enter fuel .parsing r with
      | (r, .ok true) => nextCont fuel r
      | x => x := by
  rcases r with ⟨br, bp, line, byte, sp, st, pol, log⟩
  cases st
  · simp only [next, enter]
    generalize init fuel _ = x
    rcases x with ⟨r1, (_ | _) | _ | _ | _⟩ <;> rfl
  · simp only [next, enter, incrementRecord]
    cases csub sp bp.start <;> rfl
  all_goals rfl

theorem readSet_enter (fuel : Nat) (r : Reader) (rs : RecordSet) (n : Option Nat) :
    readRecordSetExact fuel r rs n = Fault.setPost fuel n rs (enter fuel .positioned r) := by
  rcases r with ⟨br, bp, line, byte, sp, st, pol, log⟩
  cases st <;> rfl

/-! One round of `first_byte`, by what `fill_buf` returns.  Each proof spells out the first `match`
of `firstByte` with `show`: `rw [firstByte]` would have to build the equations of the function. -/

theorem firstByte_succ_ok (f : Nat) (r : Reader) (br : BufRd) (n : Nat) (hn : n ≠ 0)
    (h : fillBuf r.br = (br, .ok n)) :
    firstByte (f + 1) r =
      match scanBlank (splitLF br.buf) r.line 0 0 with
      | .inl x => ({ r with br := br }, .ok (some x))
      | .inr (ln, pos, ll) =>
        match csub pos (1 + ll), csub ln 1 with
        | some c, some l1 =>
          firstByte f { r with line := l1, byte := r.byte + c, br := br.consume c }
        | _, _ => ({ r with br := br }, .panic) := by
  cases n with
  | zero => exact absurd rfl hn
  | succ m =>
    show (match fillBuf r.br with
      | (_, .error _) => _
      | (_, .ok 0) => _
      | (_, .ok _) => _) = _
    rw [h]
    rfl

theorem firstByte_succ_zero (f : Nat) (r : Reader) (br : BufRd)
    (h : fillBuf r.br = (br, .ok 0)) :
    firstByte (f + 1) r = ({ r with br := br }, .ok none) := by
  show (match fillBuf r.br with
    | (_, .error _) => _
    | (br, .ok 0) => ({ r with br := br }, Out.ok none)
    | (_, .ok _) => _) = _
  rw [h]
  rfl

theorem firstByte_succ_err (f : Nat) (r : Reader) (br : BufRd) (k : IoKind)
    (h : fillBuf r.br = (br, .error k)) :
    firstByte (f + 1) r = ({ r with br := br }, .err (.io k)) := by
  show (match fillBuf r.br with
    | (br, .error k) => ({ r with br := br }, Out.err (Err.io k))
    | (_, .ok 0) => _
    | (_, .ok _) => _) = _
  rw [h]

end SeqIo.Fasta

namespace SeqIo.Fasta.Hist

structure LC (r r' : Reader) : Prop where
  log : r'.log = r.log
  pol : r'.pol = r.pol
  cap : r'.br.cap = r.br.cap

theorem LC.refl (r : Reader) : LC r r := ⟨rfl, rfl, rfl⟩

theorem LC.trans {a b c : Reader} (h1 : LC a b) (h2 : LC b c) : LC a c :=
  ⟨by rw [h2.log, h1.log], by rw [h2.pol, h1.pol], by rw [h2.cap, h1.cap]⟩

theorem fillBuf_cap (b : BufRd) : (fillBuf b).1.cap = b.cap := by
  have := fillBuf_spec b
  split at this
  · rename_i heq
    rw [heq]; exact this.2.2.1
  · rename_i heq
    obtain ⟨_, _, _, _, _, _, _, _, hc, _⟩ := this
    rw [heq]; exact hc

theorem LC.of_fill {r : Reader} {br : BufRd} {res : Except IoKind Nat}
    (h : fillBuf r.br = (br, res)) : LC r { r with br := br } :=
  ⟨rfl, rfl, by have := fillBuf_cap r.br; rwa [h] at this⟩

theorem firstByte_frame (f : Nat) (r : Reader) :
    LC r (firstByte f r).1 ∧ (firstByte f r).1.bp = r.bp := by
  fun_induction firstByte f r
  case case1 => exact ⟨.refl _, rfl⟩
  case case5 ih =>
    have h0 := LC.of_fill ‹_›
    exact ⟨⟨ih.1.log, ih.1.pol, ih.1.cap.trans h0.cap⟩, ih.2⟩
  all_goals exact ⟨.of_fill ‹_›, rfl⟩

theorem init_frame (fu : Nat) (r : Reader) :
    LC r (init fu r).1 ∧ (init fu r).1.bp.seqPos = r.bp.seqPos := by
  have h := firstByte_frame fu r
  fun_cases init fu r <;> rw [‹firstByte fu r = _›] at h <;>
    exact ⟨⟨h.1.log, h.1.pol, h.1.cap⟩, by rw [← h.2]⟩

theorem search__some {r r1 : Reader} {b : Bool} (h : search_ r = some (r1, b)) :
    ∃ sp sq, r1 = { r with searchPos := sp, bp := { r.bp with seqPos := sq } } := by
  unfold search_ at h
  split at h <;> cases h
  exact ⟨_, _, rfl⟩

/-- `true` = the record is complete (or the input ends), `false` = the buffer is full -/
theorem search_frame {r r' : Reader} {f : Bool} (h : search r = some (r', f)) :
    LC r r' ∧ (f = true → r.state ≠ .incomplete → r'.state ≠ .incomplete) ∧
      (f = false → r'.br.cap ≤ r'.br.buf.length) := by
  unfold search at h
  split at h
  · cases h
  · obtain ⟨_, _, rfl⟩ := search__some ‹_›
    cases h
    exact ⟨⟨rfl, rfl, rfl⟩, fun _ h => h, nofun⟩
  · obtain ⟨_, _, rfl⟩ := search__some ‹_›
    split at h <;> cases h
    · exact ⟨⟨rfl, rfl, rfl⟩, fun _ _ => nofun, nofun⟩
    · exact ⟨⟨rfl, rfl, rfl⟩, nofun, fun _ => Nat.le_of_not_lt ‹_›⟩

theorem makeRoom_some {r r1 : Reader} (h : makeRoom r = some r1) :
    ∃ sp sq, mapSub r.bp.start r.bp.seqPos = some sq ∧
      r1 = { r with br := r.br.consume r.bp.start, bp := ⟨0, sq⟩, searchPos := sp } := by
  unfold makeRoom at h
  simp only at h
  split at h <;> cases h
  exact ⟨_, _, ‹_›, rfl⟩

/-- `increment_record` is the one place that clears `seq_pos` -/
theorem incrementRecord_some {r r0 : Reader} (h : incrementRecord r = some r0) :
    ∃ d, r0 = { r with line := r.line + r.bp.seqPos.length, byte := r.byte + d,
                       bp := ⟨r.searchPos, []⟩ } := by
  unfold incrementRecord at h
  split at h <;> cases h
  exact ⟨_, rfl⟩

theorem incrementRecord_lc {r r0 : Reader} (h : incrementRecord r = some r0) :
    LC r r0 ∧ r0.state = r.state := by
  obtain ⟨_, rfl⟩ := incrementRecord_some h
  exact ⟨⟨rfl, rfl, rfl⟩, rfl⟩

theorem enter_lc (fu : Nat) (st : State) (r : Reader) : LC r (enter fu st r).1 := by
  unfold enter
  split
  · have h := (init_frame fu r).1
    generalize init fu r = x at h
    rcases x with ⟨r1, (_ | _) | _ | _ | _⟩ <;> exact ⟨h.log, h.pol, h.cap⟩
  · exact .refl r
  · split
    · have h := (incrementRecord_lc ‹incrementRecord r = _›).1
      exact ⟨h.log, h.pol, h.cap⟩
    · exact .refl r
  · exact ⟨rfl, rfl, rfl⟩
  · exact .refl r

theorem storeStep_some {n : Option Nat} {r r1 : Reader} {rs rs1 : RecordSet} {b : Bool}
    (h : storeStep n r rs = some (r1, rs1, b)) :
    incrementRecord r = some r1 ∧ rs1 = rs.store r.bp ∧ b = decide (n = some (rs.npos + 1)) := by
  unfold storeStep at h
  simp only at h
  split at h <;> cases h
  exact ⟨‹_›, rfl, rfl⟩

end SeqIo.Fasta.Hist
