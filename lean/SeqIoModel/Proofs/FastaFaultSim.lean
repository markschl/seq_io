import SeqIoModel.Proofs.Fill
/-!
# Source failures: a run with a failing script against a run with a clean script

Let the read script be `y ++ fail k :: rest` with `NoFail y` (so `fail k` is its FIRST failing
event).  We run the machine side by side with a copy whose script is `y ++ T`, where `T` is any
failure-free list of the same length as `fail k :: rest`.  As long as no refill reaches the failing
event, the two machines do exactly the same (same observations, same states up to the script, same
fuel); the refill that reaches it makes the operation that called it return `Err(Io(k))`.

Both machines are written as one state with two scripts put in (`bws b (y ++ p.tail)` and
`bws b (y ++ p.T)`), so that "same state up to the script" needs no statement of its own.
-/
open SeqIo SeqIo.FillProofs

namespace SeqIo.Fasta.Fault

/-- the first failing event, the events behind it, and their failure-free replacement -/
structure Par where
  k : IoKind
  rest : List ReadEv
  T : List ReadEv
  nofail : NoFail T
  len : T.length = rest.length + 1

def Par.tail (p : Par) : List ReadEv := .fail p.k :: p.rest

theorem Par.tail_len (p : Par) : p.tail.length = p.T.length := by
  simp [Par.tail, p.len]

def bws (b : BufRd) (s : List ReadEv) : BufRd := { b with src := { b.src with script := s } }

@[simp] theorem bws_buf (b : BufRd) (s : List ReadEv) : (bws b s).buf = b.buf := rfl
@[simp] theorem bws_cap (b : BufRd) (s : List ReadEv) : (bws b s).cap = b.cap := rfl
@[simp] theorem bws_script (b : BufRd) (s : List ReadEv) : (bws b s).src.script = s := rfl
@[simp] theorem bws_bws (b : BufRd) (s t : List ReadEv) : bws (bws b s) t = bws b t := rfl

/-- with room in the buffer, one call of the source consumes the head of the script and hands on
the rest untouched -/
theorem readIntoBuf_cons {b : BufRd} (hlt : b.buf.length < b.cap) (e : ReadEv) (s : List ReadEv) :
    (bws b (e :: s)).readIntoBuf = (bws (bws b [e]).readIntoBuf.1 s, (bws b [e]).readIntoBuf.2) := by
  simp only [BufRd.readIntoBuf, bws_cap, bws_buf, Nat.not_le.mpr hlt, if_false]
  cases e <;> rfl

theorem readIntoBuf_fail_iff {b : BufRd} (hlt : b.buf.length < b.cap) (e : ReadEv) (k : IoKind) :
    (bws b [e]).readIntoBuf.2 = .fail k ↔ e = .fail k := by
  simp only [BufRd.readIntoBuf, bws_cap, bws_buf, Nat.not_le.mpr hlt, if_false]
  cases e <;> simp [Src.read, bws]

theorem fillBufAux_sim (p : Par) : ∀ (fuel : Nat) (b : BufRd) (y : List ReadEv) (num : Nat), NoFail y →
    (∃ b' y' r, NoFail y' ∧ fillBufAux fuel (bws b (y ++ p.tail)) num = (bws b' (y' ++ p.tail), .ok r) ∧
      fillBufAux fuel (bws b (y ++ p.T)) num = (bws b' (y' ++ p.T), .ok r)) ∨
    (∃ b', fillBufAux fuel (bws b (y ++ p.tail)) num = (b', .error p.k)) := by
  intro fuel
  induction fuel with
  | zero => intro b y num hy; exact Or.inl ⟨b, y, num, hy, rfl, rfl⟩
  | succ f ih =>
    intro b y num hy
    by_cases hlt : b.buf.length < b.cap
    · have hlt' : ∀ s, (bws b s).buf.length < (bws b s).cap := fun _ => hlt
      rw [fillBufAux_succ f _ num (hlt' _), fillBufAux_succ f _ num (hlt' _)]
      cases y with
      | nil =>
        rw [List.nil_append, Par.tail, readIntoBuf_cons hlt, (readIntoBuf_fail_iff hlt _ _).mpr rfl]
        exact Or.inr ⟨_, rfl⟩
      | cons e y' =>
        have hy' : NoFail y' := fun x hx => hy x (List.mem_cons_of_mem e hx)
        have hres := fun k h => hy e List.mem_cons_self k ((readIntoBuf_fail_iff hlt e k).mp h)
        rw [List.cons_append, List.cons_append, readIntoBuf_cons hlt e (y' ++ p.tail),
          readIntoBuf_cons hlt e (y' ++ p.T)]
        generalize (bws b [e]).readIntoBuf = x at hres ⊢
        obtain ⟨b1, res⟩ := x
        cases res with
        | n k =>
          by_cases hk : k = 0
          · simp only [hk, if_true]
            exact Or.inl ⟨b1, y', num, hy', rfl, rfl⟩
          · simp only [hk, if_false]
            exact ih b1 y' (num + k) hy'
        | intr => exact ih b1 y' num hy'
        | fail kk => exact absurd rfl (hres kk)
    · have hlt' : ∀ s, ¬ (bws b s).buf.length < (bws b s).cap := fun _ => hlt
      rw [fillBufAux_full _ _ num (hlt' _), fillBufAux_full _ _ num (hlt' _)]
      exact Or.inl ⟨b, y, num, hy, rfl, rfl⟩

theorem fillBuf_sim (p : Par) (b : BufRd) (y : List ReadEv) (hy : NoFail y) :
    (∃ b' y' n, NoFail y' ∧ fillBuf (bws b (y ++ p.tail)) = (bws b' (y' ++ p.tail), .ok n) ∧
      fillBuf (bws b (y ++ p.T)) = (bws b' (y' ++ p.T), .ok n)) ∨
    (∃ b', fillBuf (bws b (y ++ p.tail)) = (b', .error p.k)) := by
  unfold fillBuf
  have hm : (bws b (y ++ p.T)).fillMeasure = (bws b (y ++ p.tail)).fillMeasure := by
    simp only [BufRd.fillMeasure, bws, List.length_append, p.tail_len, Src.remaining]
  rw [hm]
  exact fillBufAux_sim p _ b y 0 hy

end SeqIo.Fasta.Fault
