import SeqIoModel.Proofs.FastaHistorySet
/-!
# `seek` to the position of a record, from any reachable state

A target inside the buffer only moves the offsets (after the buffer has been completed); any other
target empties the buffer, moves the source and refills.  Either way record `i` is then pending at
a record start (`pt_all`, FastaHistorySpec).  `seek_gen` analyses the call once, for seeks and refills that may fail;
with a failure-free script and no scripted seek failure it succeeds (`seek_rinv`).
-/
open SeqIo SeqIo.FillProofs SeqIo.Spec

namespace SeqIo.Fasta.Hist

theorem rinv_common {inp : List UInt8} {r : Reader} {k : Nat} (h : RInv inp r k) :
    Win inp r ∧ r.byte = r.bp.start + base r := by
  cases h with
  | fresh hf =>
    refine ⟨hf.win, ?_⟩
    rw [hf.byte, hf.start]
    simp [base, baseB, hf.cur]
  | parsing hp _ => exact ⟨hp.win, hp.byte_eq⟩
  | ready hr _ => exact ⟨hr.win, hr.scan.start_eq.symm⟩
  | finished hf _ => exact ⟨hf.win, hf.byte_eq⟩

/-- the in-buffer test of `seek`: the target lies `to - base` bytes into the buffer -/
theorem seek_pos {start byte to len base : Nat} (hbyte : byte = start + base)
    (hin : 0 ≤ (start : Int) + ((to : Int) - (byte : Int)) ∧
      (start : Int) + ((to : Int) - (byte : Int)) < (len : Int)) :
    ((start : Int) + ((to : Int) - (byte : Int))).toNat = to - base ∧ base ≤ to ∧ to - base < len := by
  omega

/-- a `seek` of the source touches neither the input nor the read script; it fails only if a
failure is scripted, and moves the cursor iff it succeeds -/
theorem src_seek_cases (s : Src) (to : Nat) :
    (∃ s' k, s.seek to = (s', some k) ∧ s'.inp = s.inp ∧ s'.cursor = s.cursor ∧
      s'.seekFails = s.seekFails ∧ s.seekFails ≠ []) ∨
    (∃ s', s.seek to = (s', none) ∧ s'.inp = s.inp ∧ s'.cursor = to ∧
      s'.seekFails = s.seekFails ∧ s'.script = s.script) := by
  unfold Src.seek
  split
  · rename_i hfind
    refine Or.inl ⟨_, _, rfl, rfl, rfl, rfl, fun h => ?_⟩
    rw [h] at hfind
    cases hfind
  · exact Or.inr ⟨_, rfl, rfl, rfl, rfl, rfl⟩

/-- seeking to the position of record `i` of S, with seeks and refills that may fail: afterwards
that record is pending; or the call failed – because a refill failed or a seek failure was
scripted – and left the reader with a longer window at the same place, or `finished` -/
theorem seek_gen {inp : List UInt8} {r : Reader} (hw : WinR inp r)
    (hbyte : r.byte = r.bp.start + base r) (i : Nat) (rc : FaRec)
    (hrc : (recsOf inp)[i]? = some rc) :
    ∃ r' res, seek r rc.line rc.byte = (r', res) ∧ r'.pol.f = r.pol.f ∧
      r'.br.src.seekFails = r.br.src.seekFails ∧
      ((res = .ok () ∧ ReadyK inp r' i ∧ Eof inp r' ∧ r'.state = .positioned ∧ r'.bp.seqPos = [] ∧
          (NoFail r.br.src.script → NoFail r'.br.src.script)) ∨
       (∃ k, res = .err (.io k) ∧ (NoFail r.br.src.script → r.br.src.seekFails ≠ []) ∧
          ((∃ br2, r' = { r with br := br2 } ∧ WinF inp br2 ∧ baseB br2 = baseB r.br ∧
              r.br.buf.length ≤ br2.buf.length ∧ (EofB inp r.br → EofB inp br2)) ∨
           (WinR inp r' ∧ r'.byte = r'.bp.start + base r' ∧ r'.state = .finished)))) := by
  have hpt := pt_all inp i rc hrc
  have hlt : rc.byte < inp.length := by
    have := hpt.gt
    rcases Nat.lt_or_ge rc.byte inp.length with h | h
    · exact h
    · rw [List.drop_eq_nil_of_le h] at this; cases this
  -- record `i` is pending in a window `br2` that holds its first byte at offset `p`
  have hpos : ∀ (br2 : BufRd) (p : Nat), WinF inp br2 → p + baseB br2 = rc.byte →
      p ≤ br2.buf.length →
      ReadyK inp { r with br := br2, line := rc.line, byte := rc.byte, state := .positioned,
                          searchPos := p, bp := { start := p, seqPos := [] } } i :=
    fun br2 p hwb2 e2 hle => ⟨⟨hwb2, hw.pol⟩, ScanSt.atStart rfl e2 hle, hpt⟩
  have hfail : ∀ {b b' : BufRd} {k : IoKind}, fillBuf b = (b', .error k) →
      ¬ NoFail b.src.script := by
    intro b b' k hfill hnf
    obtain ⟨used, rest, m, hsc, -⟩ := fillBuf_error _ _ _ hfill
    exact hnf (.fail k) (by rw [hsc]; simp) k rfl
  unfold seek
  simp only
  split
  · rename_i hin
    obtain ⟨hp, hge, hlen⟩ := seek_pos (base := base r) hbyte hin
    rw [hp]
    by_cases hc : r.br.buf.length < r.br.cap
    · rw [if_pos hc]
      rcases fill_winF hw.b with ⟨br2, n, hfill, hwb2, heof2, hbase2, _, hlen2, _, _, hsf2⟩ |
        ⟨br2, k, hfill, hwb2, hbase2, _, hlen2, heofi, hsf2⟩
      · obtain ⟨-, used, hstp⟩ := fillBuf_ok _ _ _ hfill
        rw [hfill]
        refine ⟨_, _, rfl, rfl, hsf2, Or.inl ⟨rfl, hpos br2 _ hwb2 ?_ ?_, heof2, rfl, rfl,
          fun h => noFail_suffix (hstp.script ▸ h)⟩⟩
        · rw [hbase2]; exact Nat.sub_add_cancel hge
        · rw [hlen2]; exact Nat.le_trans (Nat.le_of_lt hlen) (Nat.le_add_right _ _)
      · rw [hfill]
        exact ⟨_, _, rfl, rfl, hsf2, Or.inr ⟨k, rfl, fun h => absurd h (hfail hfill),
          Or.inl ⟨br2, rfl, hwb2, hbase2, hlen2, heofi⟩⟩⟩
    · rw [if_neg hc]
      exact ⟨_, _, rfl, rfl, rfl, Or.inl ⟨rfl,
        hpos r.br _ hw.b (Nat.sub_add_cancel hge) (Nat.le_of_lt hlen),
        fun hlt => absurd hlt hc, rfl, rfl, id⟩⟩
  · rcases src_seek_cases r.br.src rc.byte with ⟨src', k, hsk, hinp, hcur, hsf, hne⟩ |
      ⟨src', hsk, hinp, hcur, hsf, hscr⟩
    · have hs : r.br.seek rc.byte = ({ r.br with src := src' }, some k) := by
        simp only [BufRd.seek, hsk]
      rw [hs]
      have hb2 : baseB { r.br with src := src' } = baseB r.br := by
        show src'.cursor - r.br.buf.length = _
        rw [hcur]; rfl
      have hwb2 : WinF inp { r.br with src := src' } := by
        refine ⟨hinp.trans hw.b.inp_eq, ?_, ?_, ?_, hw.b.cap_ge, hw.b.len_cap⟩
        · show r.br.buf.length ≤ src'.cursor; rw [hcur]; exact hw.b.len_le
        · show src'.cursor ≤ _; rw [hcur]; exact hw.b.cur_le
        · rw [hb2]; show _ = r.br.buf ++ inp.drop src'.cursor; rw [hcur]; exact hw.b.win
      refine ⟨_, _, rfl, rfl, hsf, Or.inr ⟨k, rfl, fun _ => hne,
        Or.inl ⟨_, rfl, hwb2, hb2, Nat.le_refl _, fun he hlt => ?_⟩⟩⟩
      show src'.cursor = _
      rw [hcur]
      exact he hlt
    · have hs : r.br.seek rc.byte = ({ r.br with src := src', buf := [] }, none) := by
        simp only [BufRd.seek, hsk]
      rw [hs]
      simp only
      have hwb : WinF inp { r.br with src := src', buf := [] } := by
        refine ⟨hinp.trans hw.b.inp_eq, Nat.zero_le _, ?_, rfl, hw.b.cap_ge, Nat.zero_le _⟩
        show src'.cursor ≤ _; rw [hcur]; exact Nat.le_of_lt hlt
      rcases fill_winF hwb with ⟨br2, n, hfill, hwb2, heof2, hbase2, _, _, _, _, hsf2⟩ |
        ⟨br2, k, hfill, hwb2, hbase2, _, _, _, hsf2⟩
      · obtain ⟨-, used, hstp⟩ := fillBuf_ok _ _ _ hfill
        rw [hfill]
        exact ⟨_, _, rfl, rfl, hsf2.trans hsf, Or.inl ⟨rfl,
          hpos br2 0 hwb2 ((Nat.zero_add _).trans (hbase2.trans hcur)) (Nat.zero_le _), heof2, rfl, rfl,
          fun h => noFail_suffix (hstp.script ▸ (show NoFail src'.script from hscr ▸ h))⟩⟩
      · rw [hfill]
        exact ⟨_, _, rfl, rfl, hsf2.trans hsf, Or.inr ⟨k, rfl,
          fun h => absurd (show NoFail src'.script from hscr ▸ h) (hfail hfill),
          Or.inr ⟨⟨hwb2, hw.pol⟩, ((Nat.zero_add _).trans (hbase2.trans hcur)).symm, rfl⟩⟩⟩

theorem seek_rinv {inp : List UInt8} {r : Reader} {k : Nat} (h : RInv inp r k)
    (hsf : r.br.src.seekFails = []) (i : Nat) (rc : FaRec) (hrc : (recsOf inp)[i]? = some rc) :
    ∃ r', seek r rc.line rc.byte = (r', .ok ()) ∧ Frame r r' ∧ Ready inp r' i ∧
      r'.state = .positioned ∧ r'.bp.seqPos = [] := by
  obtain ⟨hw, hbyte⟩ := rinv_common h
  obtain ⟨r', res, hseek, hpf, hsf', hcase⟩ := seek_gen (.ofWin hw) hbyte i rc hrc
  rcases hcase with ⟨rfl, hr, he, hst, hsq, hnf⟩ | ⟨k, -, hfail, -⟩
  · exact ⟨r', hseek, ⟨hpf, hsf'⟩,
      hr.toReady (G := True) (Or.inl ⟨hst, he⟩) trivial (hnf hw.b.nofail), hst, hsq⟩
  · exact absurd hsf (hfail hw.b.nofail)

end SeqIo.Fasta.Hist
