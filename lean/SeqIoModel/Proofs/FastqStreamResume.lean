import SeqIoModel.Proofs.FastqStreamOutcome
/-!
# `grow`, `make_room`, refill and the loop of `resume_incomplete_search`

`resume_spec`: from a search that stopped at the end of the buffer, the loop finds S's next item
(`Found`); it also records the requests made to the policy (`Reqs`, a well-formed `GrowLog`), and
that without permission to shift the buffer is only extended (`Ext`).  The measure is `mu`.
-/

namespace SeqIo.Fastq
open SeqIo SeqIo.Spec SeqIo.WriteProofs SeqIo.FillProofs

def growOk (r : Reader) (n : Nat) : Reader :=
  { r with pol := { r.pol with hist := r.pol.hist ++ [r.br.cap] },
           log := r.log ++ [(r.br.cap, some n)],
           br := { r.br with cap := n } }

def growNo (r : Reader) : Reader :=
  { r with pol := { r.pol with hist := r.pol.hist ++ [r.br.cap] },
           log := r.log ++ [(r.br.cap, none)] }

theorem grow_spec (r : Reader) (hpol : PolWf1 r.pol) (hfull : r.br.buf.length = r.br.cap)
    (hcap : 1 ≤ r.br.cap) :
    (∃ n, r.br.cap < n ∧ r.pol.f (r.pol.hist ++ [r.br.cap]) = some n ∧
      grow r = (growOk r n, .ok ())) ∨
    (r.pol.f (r.pol.hist ++ [r.br.cap]) = none ∧ grow r = (growNo r, .err .bufferLimit)) := by
  cases hn : r.pol.f (r.pol.hist ++ [r.br.cap]) with
  | none =>
    right
    refine ⟨rfl, ?_⟩
    simp only [grow, Pol.growTo, hn, growNo]
  | some n =>
    left
    have hlt := hpol r.pol.hist r.br.cap n hcap hn
    refine ⟨n, hlt, rfl, ?_⟩
    have hne : r.br.buf.isEmpty = false := by
      cases hb : r.br.buf with
      | nil => rw [hb] at hfull; simp at hfull; omega
      | cons => rfl
    have hres : r.br.reserve (n - r.br.cap) = { r.br with cap := n } := by
      simp only [BufRd.reserve, hfull, Nat.sub_self, hne]
      rw [if_neg (by omega)]
      simp only [Bool.false_eq_true, if_false, Nat.sub_zero]
      congr 1
      omega
    simp only [grow, Pol.growTo, hn, csub_of_le (Nat.le_of_lt hlt), hres, growOk]

/-- the offsets after `make_room` -/
def shiftBp (bp : BufPos) (ip : RecordPos) : BufPos :=
  { bp with pos0 := 0,
            seq := if ip.ord ≥ RecordPos.seq.ord then bp.seq - bp.pos0 else bp.seq,
            sep := if ip.ord ≥ RecordPos.sep.ord then bp.sep - bp.pos0 else bp.sep,
            qual := if ip.ord ≥ RecordPos.qual.ord then bp.qual - bp.pos0 else bp.qual }

theorem makeRoom_spec (r : Reader) (ip : RecordPos)
    (hpre : Pre r.br.buf r.bp ip) :
    makeRoom r ip = some { r with br := r.br.consume r.bp.pos0, bp := shiftBp r.bp ip } ∧
      Pre (r.br.buf.drop r.bp.pos0) (shiftBp r.bp ip) ip := by
  cases ip with
  | head =>
    refine ⟨?_, trivial⟩
    simp only [makeRoom, RecordPos.ord, ge_iff_le, Nat.le_zero_eq, Nat.succ_ne_self, ↓reduceIte,
      reduceCtorEq, shiftBp]
  | seq =>
    have a : nl r.br.buf r.bp.pos0 = some r.bp.seq := hpre
    have a' := nl_some a
    constructor
    · simp only [makeRoom, RecordPos.ord, ge_iff_le, Std.le_refl, ↓reduceIte,
        csub_of_le (Nat.le_of_lt a'.1), Nat.reduceLeDiff, shiftBp]
    · have := nl_drop_some r.bp.pos0 (Nat.le_refl _) a
      simpa only [Pre, shiftBp, RecordPos.ord, ge_iff_le, Std.le_refl, ↓reduceIte, Nat.reduceLeDiff,
        Nat.sub_self] using this
  | sep =>
    obtain ⟨a, b⟩ := hpre
    have a' := nl_some a
    have b' := nl_some b
    constructor
    · simp only [makeRoom, RecordPos.ord, ge_iff_le, Nat.reduceLeDiff, ↓reduceIte, Std.le_refl,
        csub_of_le (Nat.le_of_lt a'.1), csub_of_le (show r.bp.pos0 ≤ r.bp.sep by omega), shiftBp]
    · have h1 := nl_drop_some r.bp.pos0 (Nat.le_refl _) a
      have h2 := nl_drop_some r.bp.pos0 (Nat.le_of_lt a'.1) b
      simp only [Nat.sub_self] at h1
      simp only [Pre, shiftBp, RecordPos.ord]
      simp only [ge_iff_le, Nat.reduceLeDiff, ↓reduceIte, Std.le_refl]
      exact ⟨h1, h2⟩
  | qual =>
    obtain ⟨a, b, c⟩ := hpre
    have a' := nl_some a
    have b' := nl_some b
    have c' := nl_some c
    constructor
    · simp only [makeRoom, RecordPos.ord, ge_iff_le, Nat.reduceLeDiff, ↓reduceIte, Std.le_refl,
        csub_of_le (Nat.le_of_lt a'.1), csub_of_le (show r.bp.pos0 ≤ r.bp.sep by omega),
        csub_of_le (show r.bp.pos0 ≤ r.bp.qual by omega), shiftBp]
    · have h1 := nl_drop_some r.bp.pos0 (Nat.le_refl _) a
      have h2 := nl_drop_some r.bp.pos0 (Nat.le_of_lt a'.1) b
      have h3 := nl_drop_some r.bp.pos0 (show r.bp.pos0 ≤ r.bp.sep by omega) c
      simp only [Nat.sub_self] at h1
      simp only [Pre, shiftBp, RecordPos.ord]
      simp only [ge_iff_le, Nat.reduceLeDiff, ↓reduceIte, Std.le_refl]
      exact ⟨h1, h2, h3⟩

theorem Win.extend {inp G r} (hb : Win inp G r) {br' : BufRd} {m : Nat}
    (hm1 : m ≤ r.br.cap - r.br.buf.length) (hm2 : m ≤ inp.length - r.br.src.cursor)
    (hbuf : br'.buf = r.br.buf ++ (r.br.src.inp.drop r.br.src.cursor).take m)
    (hcap : br'.cap = r.br.cap) (hinp : br'.src.inp = r.br.src.inp)
    (hcu : br'.src.cursor = r.br.src.cursor + m)
    (hnf : G → NoFail br'.src.script) (hsf : G → br'.src.seekFails = []) :
    ((r.br.src.inp.drop r.br.src.cursor).take m).length = m ∧ Win inp G { r with br := br' } := by
  have hcur := hb.cur_le
  have hlen_le := hb.len_le
  have hlc := hb.len_cur
  have hlen : ((r.br.src.inp.drop r.br.src.cursor).take m).length = m := by
    apply length_take_drop
    rw [hb.inp_eq]; omega
  have hlen' : ((inp.drop r.br.src.cursor).take m).length = m := by
    rw [← hb.inp_eq]; exact hlen
  refine ⟨hlen, ?_, ?_, hnf, hb.polwf, hb.polg, ?_, ?_, ?_, ?_, ?_, hsf⟩
  · simp only [hinp, hb.inp_eq]
  · simp only [hcu]; omega
  · simp only [hcap]; exact hb.cap3
  · simp only [hcap, hbuf, List.length_append, hlen]; omega
  · simp only [hbuf, hcu, List.length_append, hlen]; omega
  · simp only [hbuf, hcu, hb.inp_eq, List.length_append, hlen']
    have : r.br.src.cursor + m - (r.br.buf.length + m) = r.br.src.cursor - r.br.buf.length := by
      omega
    rw [this, hb.full, List.append_assoc]
    congr 1
    rw [← List.drop_drop]
    exact (List.take_append_drop m _).symm
  · simp only [hbuf, hcu, List.length_append, hlen]
    have := hb.byte_pos
    omega

/-- a refill keeps the window invariant, whether it succeeds or fails; when it succeeds it
(re-)establishes the knowledge about the end -/
theorem fill_cases (inp : List UInt8) (G : Prop) (r : Reader) (hb : Win inp G r) :
    (∃ br' ext n, fillBuf r.br = (br', .ok n) ∧ br'.buf = r.br.buf ++ ext ∧ br'.cap = r.br.cap ∧
      br'.src.cursor = r.br.src.cursor + ext.length ∧
      ext.length = min (r.br.cap - r.br.buf.length) (inp.length - r.br.src.cursor) ∧
      Win inp G { r with br := br' } ∧ Eof inp { r with br := br' } ∧ n = ext.length) ∨
    (∃ br' ext k, fillBuf r.br = (br', .error k) ∧ br'.buf = r.br.buf ++ ext ∧
      br'.cap = r.br.cap ∧ br'.src.cursor = r.br.src.cursor + ext.length ∧
      ext.length ≤ min (r.br.cap - r.br.buf.length) (inp.length - r.br.src.cursor) ∧
      ¬ G ∧ Win inp G { r with br := br' }) := by
  have hrem : r.br.src.remaining = inp.length - r.br.src.cursor := by
    simp only [Src.remaining, hb.inp_eq]
  rcases h : fillBuf r.br with ⟨br', (k | n)⟩
  · obtain ⟨used, rest, m, hs, -, -, hm, hbuf, hcap, hinp, hcu⟩ := fillBuf_error r.br br' k h
    rw [hrem] at hm
    have hG : ¬ G := fun hG => hb.nofail hG (.fail k) (by rw [hs]; simp) k rfl
    obtain ⟨hlen, hw⟩ := hb.extend (Nat.le_min.mp hm).1 (Nat.le_min.mp hm).2 hbuf hcap hinp hcu
      (fun h => absurd h hG) (fun h => absurd h hG)
    exact Or.inr ⟨br', _, k, rfl, hbuf, hcap, by rw [hcu, hlen], by rw [hlen]; exact hm, hG, hw⟩
  · obtain ⟨hn, used, hstep⟩ := fillBuf_ok r.br br' n h
    rw [hrem] at hn
    obtain ⟨hlen, hw⟩ := hb.extend (hn ▸ Nat.min_le_left _ _) (hn ▸ Nat.min_le_right _ _)
      hstep.buf hstep.cap hstep.inp hstep.cursor
      (fun hG => noFail_suffix (hstep.script ▸ hb.nofail hG))
      (fun hG => by rw [hstep.seekFails]; exact hb.nosf hG)
    refine Or.inl ⟨br', _, n, rfl, hstep.buf, hstep.cap, by rw [hstep.cursor, hlen],
      by rw [hlen, hn], hw, ?_, hlen.symm⟩
    intro hlt
    have := hb.cur_le
    have := hb.len_le
    simp only [hstep.cap, hstep.buf, List.length_append, hlen, hstep.cursor] at hlt ⊢
    omega

theorem fill_win (inp : List UInt8) (G : Prop) (hG : G) (r : Reader) (hb : Win inp G r) :
    ∃ br' ext n, fillBuf r.br = (br', .ok n) ∧ br'.buf = r.br.buf ++ ext ∧ br'.cap = r.br.cap ∧
      br'.src.cursor = r.br.src.cursor + ext.length ∧
      ext.length = min (r.br.cap - r.br.buf.length) (inp.length - r.br.src.cursor) ∧
      Win inp G { r with br := br' } ∧ Eof inp { r with br := br' } ∧ n = ext.length := by
  rcases fill_cases inp G r hb with h | ⟨br', ext, k, -, -, -, -, -, hnG, -⟩
  · exact h
  · exact absurd hG hnG

/-- the window after `make_room` has moved the current group to the start of the buffer -/
theorem Win.consume {inp G r} (hw : Win inp G r) (hp0 : r.bp.pos0 ≤ r.br.buf.length)
    (bp' : BufPos) (h0 : bp'.pos0 = 0) :
    Win inp G { r with br := r.br.consume r.bp.pos0, bp := bp' } := by
  have h1 := hw.len_le
  have h2 := hw.len_cur
  have h3 := hw.byte_pos
  refine ⟨hw.inp_eq, hw.cur_le, hw.nofail, hw.polwf, hw.polg, hw.cap3, ?_, ?_, ?_, ?_, hw.nosf⟩
  · simp only [BufRd.consume, List.length_drop]; omega
  · simp only [BufRd.consume, List.length_drop]; omega
  · simp only [BufRd.consume, List.length_drop]
    have : r.br.src.cursor - (r.br.buf.length - r.bp.pos0) =
        (r.br.src.cursor - r.br.buf.length) + r.bp.pos0 := by omega
    rw [this, ← List.drop_drop, hw.full, List.drop_append_of_le_length hp0]
  · simp only [BufRd.consume, h0, List.length_drop]; omega

/-! ## the loop -/

/-- the part of a loop iteration after the refill -/
def resumeK (f : Nat) (ip : RecordPos) (mk : Bool) (r : Reader) : Reader × Res Bool :=
  match searchIncomplete r ip with
  | (r, .ok (some ip')) => resume f ip' mk r
  | (r, .ok none) => (r, .ok true)
  | (r, .err e) => (r, .err e)
  | (r, .panic) => (r, .panic)
  | (r, .fuel) => (r, .fuel)

theorem resume_succ (f : Nat) (ip : RecordPos) (mk : Bool) (r : Reader) :
    resume (f + 1) ip mk r =
      if r.br.buf.length < r.br.cap then checkEnd { r with state := .finished } ip
      else
        match (if !mk || r.bp.pos0 = 0 then
            match grow r with
            | (r, .ok ()) => (r, .ok ())
            | (r, .err e) => ({ r with state := .finished }, .err e)
            | x => x
          else match makeRoom r ip with
            | some r' => (r', .ok ())
            | none => (r, .panic) : Reader × Res Unit) with
        | (r, .ok ()) =>
          match fillBuf r.br with
          | (br, .error k) => ({ r with br := br, state := .finished }, .err (.io k))
          | (br, .ok _) => resumeK f ip mk { r with br := br }
        | (r, .err e) => (r, .err e)
        | (r, .panic) => (r, .panic)
        | (r, .fuel) => (r, .fuel) := by
  rw [resume]
  rfl

/-! The ways through one iteration: end of input; `grow` (granted and refilled, refused, granted
and the refill fails); `make_room` (refilled, the refill fails). -/

theorem resume_eof (f : Nat) (ip : RecordPos) (mk : Bool) (r : Reader)
    (h : r.br.buf.length < r.br.cap) :
    resume (f + 1) ip mk r = checkEnd { r with state := .finished } ip := by
  rw [resume_succ, if_pos h]

theorem resume_grow (f : Nat) (ip : RecordPos) (mk : Bool) (r r1 : Reader) (br' : BufRd) (n : Nat)
    (h : ¬ r.br.buf.length < r.br.cap) (hp : (!mk || decide (r.bp.pos0 = 0)) = true)
    (hg : grow r = (r1, .ok ())) (hfill : fillBuf r1.br = (br', .ok n)) :
    resume (f + 1) ip mk r = resumeK f ip mk { r1 with br := br' } := by
  rw [resume_succ, if_neg h]
  simp only [hp, if_true, hg, hfill]

theorem resume_refused (f : Nat) (ip : RecordPos) (mk : Bool) (r r1 : Reader) (e : Err)
    (h : ¬ r.br.buf.length < r.br.cap) (hp : (!mk || decide (r.bp.pos0 = 0)) = true)
    (hg : grow r = (r1, .err e)) :
    resume (f + 1) ip mk r = ({ r1 with state := .finished }, .err e) := by
  rw [resume_succ, if_neg h]
  simp only [hp, if_true, hg]

theorem resume_grow_err (f : Nat) (ip : RecordPos) (mk : Bool) (r r1 : Reader) (br' : BufRd)
    (k : IoKind) (h : ¬ r.br.buf.length < r.br.cap)
    (hp : (!mk || decide (r.bp.pos0 = 0)) = true)
    (hg : grow r = (r1, .ok ())) (hfill : fillBuf r1.br = (br', .error k)) :
    resume (f + 1) ip mk r = ({ r1 with br := br', state := .finished }, .err (.io k)) := by
  rw [resume_succ, if_neg h]
  simp only [hp, if_true, hg, hfill]

theorem resume_room (f : Nat) (ip : RecordPos) (mk : Bool) (r r1 : Reader) (br' : BufRd) (n : Nat)
    (h : ¬ r.br.buf.length < r.br.cap) (hp : (!mk || decide (r.bp.pos0 = 0)) = false)
    (hg : makeRoom r ip = some r1) (hfill : fillBuf r1.br = (br', .ok n)) :
    resume (f + 1) ip mk r = resumeK f ip mk { r1 with br := br' } := by
  rw [resume_succ, if_neg h]
  simp only [hp, Bool.false_eq_true, if_false, hg, hfill]

theorem resume_room_err (f : Nat) (ip : RecordPos) (mk : Bool) (r r1 : Reader) (br' : BufRd)
    (k : IoKind) (h : ¬ r.br.buf.length < r.br.cap)
    (hp : (!mk || decide (r.bp.pos0 = 0)) = false)
    (hg : makeRoom r ip = some r1) (hfill : fillBuf r1.br = (br', .error k)) :
    resume (f + 1) ip mk r = ({ r1 with br := br', state := .finished }, .err (.io k)) := by
  rw [resume_succ, if_neg h]
  simp only [hp, Bool.false_eq_true, if_false, hg, hfill]

/-- measure of the loop: unread input, plus one while the buffer is full -/
def mu (inp : List UInt8) (r : Reader) : Nat :=
  (inp.length - r.br.src.cursor) + (if r.br.buf.length < r.br.cap then 0 else 1)

theorem mu_lt {inp : List UInt8} {fuel : Nat} (r : Reader) (hfuel : inp.length + 2 ≤ fuel) :
    mu inp r + 1 ≤ fuel :=
  Nat.le_trans (Nat.succ_le_succ (Nat.add_le_add (Nat.sub_le _ _) (by split <;> decide))) hfuel

def Ext (mk : Bool) (r r' : Reader) : Prop := mk = false → ∃ e, r'.br.buf = r.br.buf ++ e

/-- the requests logged by an operation: starting from capacity `c`, every granted request
`(c, some n)` raises the capacity to `n > c`; a refused request `(c, none)` is the last one;
the `Bool` tells whether the last request was refused -/
inductive GrowLog : Nat → List (Nat × Option Nat) → Nat → Bool → Prop
  | nil (c : Nat) : GrowLog c [] c false
  | grant (c n : Nat) (rest : List (Nat × Option Nat)) (cf : Nat) (b : Bool) :
      c < n → GrowLog n rest cf b → GrowLog c ((c, some n) :: rest) cf b
  | refuse (c : Nat) : GrowLog c [(c, none)] c true

/-- on the way from `r` to `r'`, ending with the result `res`, the log was extended by a
well-formed chain of requests from the capacity of `r` to that of `r'`; `BufferLimit` is returned
iff the last request was refused; every request passed a capacity satisfying `P` -/
def Reqs (P : Nat → Prop) (r r' : Reader) (res : Res Bool) : Prop :=
  ∃ new b, r'.log = r.log ++ new ∧ GrowLog r.br.cap new r'.br.cap b ∧
    (res = .err .bufferLimit ↔ b = true) ∧ ∀ c a, (c, a) ∈ new → P c

theorem Reqs.same {P : Nat → Prop} {r r' : Reader} {res : Res Bool} (hl : r'.log = r.log)
    (hc : r'.br.cap = r.br.cap) (hr : res ≠ .err .bufferLimit) : Reqs P r r' res :=
  ⟨[], false, by rw [hl, List.append_nil], by rw [hc]; exact GrowLog.nil _,
    ⟨fun h => absurd h hr, nofun⟩, nofun⟩

theorem Reqs.of_same {P : Nat → Prop} {r r1 r' : Reader} {res : Res Bool} (h : Reqs P r1 r' res)
    (hlog : r1.log = r.log) (hcap : r1.br.cap = r.br.cap) : Reqs P r r' res := by
  unfold Reqs at h ⊢
  rw [← hlog, ← hcap]
  exact h

theorem Reqs.grant {P : Nat → Prop} {r r1 r' : Reader} {res : Res Bool} {n : Nat}
    (h : Reqs P r1 r' res) (hlog : r1.log = r.log ++ [(r.br.cap, some n)]) (hn : r.br.cap < n)
    (hcap : r1.br.cap = n) (hP : P r.br.cap) : Reqs P r r' res := by
  obtain ⟨new, b, hl1, hl2, hl3, hl4⟩ := h
  refine ⟨(r.br.cap, some n) :: new, b, by rw [hl1, hlog, List.append_assoc]; rfl,
    .grant _ _ _ _ _ hn (hcap ▸ hl2), hl3, fun c a hmem => ?_⟩
  rcases List.mem_cons.mp hmem with h1 | hmem
  · cases h1; exact hP
  · exact hl4 c a hmem

theorem GrowLog.append {c c1 c2 : Nat} {new1 new2 : List (Nat × Option Nat)} {b : Bool}
    (h1 : GrowLog c new1 c1 false) (h2 : GrowLog c1 new2 c2 b) :
    GrowLog c (new1 ++ new2) c2 b := by
  generalize hb : false = b1 at h1
  induction h1 with
  | nil c => exact h2
  | grant c n rest cf b' hlt _ ih => exact GrowLog.grant _ _ _ _ _ hlt (ih h2 hb)
  | refuse c => cases hb

theorem Reqs.trans {P : Nat → Prop} {r r1 r2 : Reader} {res1 res : Res Bool}
    (h1 : Reqs P r r1 res1) (hr : res1 ≠ .err .bufferLimit) (h2 : Reqs P r1 r2 res) :
    Reqs P r r2 res := by
  obtain ⟨new1, b1, l1, g1, i1, p1⟩ := h1
  obtain ⟨new2, b, l2, g2, i2, p2⟩ := h2
  cases b1 with
  | true => exact absurd (i1.mpr rfl) hr
  | false =>
    refine ⟨new1 ++ new2, b, by rw [l2, l1, List.append_assoc], g1.append g2, i2, fun c a hm => ?_⟩
    rcases List.mem_append.mp hm with hm | hm
    · exact p1 c a hm
    · exact p2 c a hm

theorem Reqs.mono {P Q : Nat → Prop} {r r' : Reader} {res : Res Bool} (h : Reqs P r r' res)
    (hpq : ∀ c, P c → Q c) : Reqs Q r r' res := by
  obtain ⟨new, b, h1, h2, h3, h4⟩ := h
  exact ⟨new, b, h1, h2, h3, fun c a hm => hpq c (h4 c a hm)⟩

/-- what the loop of `resume_incomplete_search` (`mk` = may the buffer be shifted), or a part of it,
achieves from `r`: S's next item is found; without permission to shift the buffer is only
extended; with it, the policy is asked only while the group does not fit into the capacity passed -/
def Resumed (inp : List UInt8) (G : Prop) (mk : Bool) (r : Reader) (x : Reader × Res Bool) : Prop :=
  Found inp G r.state (itemsAt inp r.byte r.line) x ∧ Ext mk r x.1 ∧
    Reqs (fun c => mk = true → ¬ Fits (inp.drop r.byte) c) r x.1 x.2

theorem resumeK_spec (inp : List UInt8) (G : Prop) (f : Nat) (ip : RecordPos) (mk : Bool)
    (r : Reader)
    (ih : ∀ (r : Reader) (ip : RecordPos), Base inp G r → Eof inp r →
      Scan r.br.buf r.bp ip → mu inp r + 1 ≤ f → Resumed inp G mk r (resume f ip mk r))
    (hb : Base inp G r) (he : Eof inp r)
    (hpre : Pre r.br.buf r.bp ip) (hmu : mu inp r + 1 ≤ f) :
    Resumed inp G mk r (resumeK f ip mk r) := by
  rcases si_spec r ip hb.pos0_le hpre with ⟨bp', ip', hp0, hsc, hres⟩ | ⟨bp', hp0, hf4, hres⟩
  · simp only [resumeK, hres]
    exact ih { r with bp := bp', incompletePos := some ip' } ip' (hb.set_bp bp' _ hp0) he hsc hmu
  · have : resumeK f ip mk r = validated { r with bp := bp', incompletePos := none } := by
      rw [← wrapS_wrapV_validate]
      simp only [resumeK, hres]
      generalize validate _ = v
      rcases v with ⟨r', (_ | _ | _ | _)⟩ <;> rfl
    rw [this]
    obtain ⟨hF, ⟨st, hfr⟩, hne⟩ := complete_found inp G { r with bp := bp', incompletePos := none }
      (hb.set_bp bp' _ hp0) he rfl hf4
    exact ⟨hF, fun _ => ⟨[], by rw [hfr, List.append_nil]⟩, Reqs.same (by rw [hfr]) (by rw [hfr]) hne⟩

theorem mu_refill {L cur len cap e f : Nat} (he : e = min (cap - len) (L - cur)) (hlt : len < cap)
    (hc : cur ≤ L) (hf : L - cur + 1 ≤ f) :
    L - (cur + e) + (if len + e < cap then 0 else 1) + 1 ≤ f := by
  split <;> omega

/-- a loop iteration from the refill on: `r` is the reader after `grow` or `make_room`, `x` the
result of the iteration -/
theorem resume_refill (inp : List UInt8) (G : Prop) (f : Nat) (ip : RecordPos) (mk : Bool)
    (ih : ∀ (r : Reader) (ip : RecordPos), Base inp G r → Eof inp r →
      Scan r.br.buf r.bp ip → mu inp r + 1 ≤ f → Resumed inp G mk r (resume f ip mk r))
    (r : Reader) (x : Reader × Res Bool) (hw : Win inp G r) (hlt : r.br.buf.length < r.br.cap)
    (hp0 : r.bp.pos0 ≤ r.br.buf.length) (hpre : Pre r.br.buf r.bp ip)
    (hmu : inp.length - r.br.src.cursor + 1 ≤ f)
    (hok : ∀ br' n, fillBuf r.br = (br', .ok n) → x = resumeK f ip mk { r with br := br' })
    (herr : ∀ br' k, fillBuf r.br = (br', .error k) →
      x = ({ r with br := br', state := .finished }, .err (.io k))) :
    Resumed inp G mk r x := by
  rcases fill_cases inp G r hw with
    ⟨br', ext, m, hfill, hbuf, hcap, hcur, hext, hw2, he2, -⟩ |
    ⟨br', ext, k, hfill, hbuf, hcap, hcur, -, hnG, hw2⟩
  · rw [hok br' m hfill]
    have hb2 : Base inp G { r with br := br' } :=
      ⟨hw2, by show r.bp.pos0 ≤ br'.buf.length; rw [hbuf, List.length_append]; omega⟩
    have hpre2 : Pre br'.buf r.bp ip := by rw [hbuf]; exact hpre.append ext
    have hmu2 : mu inp { r with br := br' } + 1 ≤ f := by
      simp only [mu, hbuf, hcap, hcur, List.length_append]
      exact mu_refill hext hlt hw.cur_le hmu
    obtain ⟨hF, hE, hL⟩ := resumeK_spec inp G f ip mk { r with br := br' } ih hb2 he2 hpre2 hmu2
    refine ⟨hF, fun hmk => ?_, hL.of_same rfl hcap⟩
    obtain ⟨e, he⟩ := hE hmk
    exact ⟨ext ++ e, by rw [he]; show br'.buf ++ e = _; rw [hbuf, List.append_assoc]⟩
  · rw [herr br' k hfill]
    exact ⟨.env _ rfl trivial hnG ⟨rfl, hw2.set_state _⟩,
      fun _ => ⟨ext, hbuf⟩, Reqs.same rfl hcap nofun⟩

theorem resume_spec (inp : List UInt8) (G : Prop) (mk : Bool) (f : Nat) :
    ∀ (r : Reader) (ip : RecordPos), Base inp G r → Eof inp r →
      Scan r.br.buf r.bp ip → mu inp r + 1 ≤ f → Resumed inp G mk r (resume f ip mk r) := by
  induction f with
  | zero => intro r ip _ _ _ h; omega
  | succ f ih =>
    intro r ip hb he hsc hmu
    have hw := hb.toWin
    by_cases hlt : r.br.buf.length < r.br.cap
    · -- end of input
      rw [resume_eof f ip mk r hlt]
      obtain ⟨⟨bp, st, hfr⟩, hne⟩ := checkEnd_frame { r with state := .finished } ip
      have hb' : Base inp G { r with state := .finished } := hb.set_state _
      refine ⟨?_, fun _ => ⟨[], by rw [hfr, List.append_nil]⟩,
        Reqs.same (by rw [hfr]) (by rw [hfr]) hne⟩
      by_cases hq : ip = .qual
      · subst hq
        rw [checkEnd_qual]
        exact eofq_found inp G r.state
          { r with state := .finished, bp := { r.bp with pos1 := r.br.buf.length } }
          (hb'.set_bp _ _ rfl) he (he hlt) rfl hsc.1 hsc.2 rfl
      · exact eof_few_found inp G r.state { r with state := .finished } hb' he (he hlt) rfl ip hq hsc
    · have hfull : r.br.buf.length = r.br.cap := by have := hw.len_le; omega
      have hmu' : inp.length - r.br.src.cursor + 1 ≤ f := by
        simp only [mu, hlt, if_false] at hmu
        omega
      cases hp : (!mk || decide (r.bp.pos0 = 0)) with
      | true =>
        -- the group starts at offset 0 (or the buffer must not be shifted): grow
        have hunfit : mk = true → ¬ Fits (inp.drop r.byte) r.br.cap := by
          intro hmk
          have h0 : r.bp.pos0 = 0 := by simpa [hmk] using hp
          rw [hb.win, h0, List.drop_zero, ← hfull]
          exact scan_unfit hsc h0
        rcases grow_spec r hw.polwf hfull (by have := hw.cap3; omega) with
          ⟨n, hn, hans, hg⟩ | ⟨hans, hg⟩
        · have hw1 : Win inp G (growOk r n) := hw.frame rfl rfl (Nat.le_of_lt hn) rfl rfl
          obtain ⟨hF, hE, hL⟩ := resume_refill inp G f ip mk ih (growOk r n)
            (resume (f + 1) ip mk r) hw1 (show r.br.buf.length < n by omega) hb.pos0_le hsc.1 hmu'
            (fun br' m => resume_grow f ip mk r _ br' m hlt hp hg)
            (fun br' k => resume_grow_err f ip mk r _ br' k hlt hp hg)
          exact ⟨hF, hE, hL.grant rfl hn rfl hunfit⟩
        · rw [resume_refused f ip mk r _ _ hlt hp hg]
          refine ⟨.env _ rfl trivial (fun hG => ?_)
              ⟨rfl, hw.frame (r' := { growNo r with state := .finished }) rfl rfl (Nat.le_refl _) rfl rfl⟩,
            fun _ => ⟨[], (List.append_nil _).symm⟩,
            [(r.br.cap, none)], true, rfl, GrowLog.refuse _, ⟨fun _ => rfl, fun _ => rfl⟩,
            fun c a hmem hmk => ?_⟩
          · obtain ⟨n, hn, -⟩ := hw.polg hG r.pol.hist r.br.cap (by have := hw.cap3; omega)
            rw [hn] at hans
            cases hans
          · cases List.mem_singleton.mp hmem
            exact hunfit hmk
      | false =>
        -- the group can be moved to the start of the buffer: make room
        have hmk : mk = true := by cases mk <;> simp at hp ⊢
        have hp0 := hb.pos0_le
        have hpne : r.bp.pos0 ≠ 0 := fun h0 => by simp [h0] at hp
        obtain ⟨hmr, hpre'⟩ := makeRoom_spec r ip hsc.1
        have hw1 := hw.consume hp0 (shiftBp r.bp ip) rfl
        obtain ⟨hF, -, hL⟩ := resume_refill inp G f ip mk ih _ (resume (f + 1) ip mk r) hw1
          (by have := hw.len_le; simp only [BufRd.consume, List.length_drop]; omega)
          (Nat.zero_le _) hpre' hmu'
          (fun br' m => resume_room f ip mk r _ br' m hlt hp hmr)
          (fun br' k => resume_room_err f ip mk r _ br' k hlt hp hmr)
        exact ⟨hF, fun h => (by rw [hmk] at h; cases h), hL⟩

end SeqIo.Fastq
