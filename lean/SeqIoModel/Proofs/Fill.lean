import SeqIoModel.Model.Source
import SeqIoModel.Model.Policy
/-!
# The buffer policies and `fill_buf`

The built-in policies compute the documented sizes and honour the growth contract.  `fillBuf`
(model of `lib.rs::fill_buf`) is described by `Step b b1 m used`: reads that succeed or are
interrupted consume the script prefix `used` and append the next `m` input bytes.  Hence the result
does not depend on how the source chunks its data, interrupted reads are invisible, and the first
failing event surfaces with its kind.
-/

namespace SeqIo.FillProofs
open SeqIo

/-! ## the built-in policies -/

theorem std_is_doubleUntil (c : Nat) : stdGrow c = doubleUntilGrow (2 ^ 23) c := rfl

theorem doubleUntil_below (t c : Nat) (h : c < t) : doubleUntilGrow t c = some (c * 2) := by
  simp [doubleUntilGrow, h]

theorem doubleUntil_above (t c : Nat) (h : t ≤ c) : doubleUntilGrow t c = some (c + t) := by
  have : ¬ c < t := by omega
  simp [doubleUntilGrow, this]

theorem limited_some_iff (t l c n : Nat) :
    limitedGrow t l c = some n ↔ doubleUntilGrow t c = some n ∧ n ≤ l := by
  simp only [limitedGrow, doubleUntilGrow, Option.some.injEq]
  generalize (if c < t then c * 2 else c + t) = x
  by_cases h : x ≤ l
  · simp only [h, if_true, Option.some.injEq]
    constructor
    · intro hx; subst hx; exact ⟨rfl, h⟩
    · exact fun hx => hx.1
  · simp only [h, if_false]
    constructor
    · intro hx; cases hx
    · rintro ⟨hx, hl⟩; subst hx; exact absurd hl h

theorem limited_none_iff (t l c : Nat) :
    limitedGrow t l c = none ↔ ∃ n, doubleUntilGrow t c = some n ∧ l < n := by
  simp only [limitedGrow, doubleUntilGrow, Option.some.injEq]
  generalize (if c < t then c * 2 else c + t) = x
  by_cases h : x ≤ l
  · simp only [h, if_true]
    constructor
    · intro hx; cases hx
    · rintro ⟨n, hx, hl⟩; subst hx; omega
  · simp only [h, if_false, true_iff]
    exact ⟨x, rfl, by omega⟩

theorem doubleUntil_grows (t c n : Nat) (hc : 0 < c) (ht : 0 < t)
    (h : doubleUntilGrow t c = some n) : c < n := by
  simp only [doubleUntilGrow, Option.some.injEq] at h
  split at h <;> omega

theorem limited_grows (t l c n : Nat) (hc : 0 < c) (ht : 0 < t)
    (h : limitedGrow t l c = some n) : c < n ∧ n ≤ l := by
  rw [limited_some_iff] at h
  exact ⟨doubleUntil_grows t c n hc ht h.1, h.2⟩

/-! ## `fill_buf` -/

def NoFail (s : List ReadEv) : Prop := ∀ e ∈ s, ∀ k, e ≠ ReadEv.fail k

theorem noFail_nil : NoFail [] := by
  intro e he; cases he

theorem noFail_append {a b : List ReadEv} (ha : NoFail a) (hb : NoFail b) : NoFail (a ++ b) := by
  intro e he k
  rcases List.mem_append.mp he with h | h
  · exact ha e h k
  · exact hb e h k

theorem noFail_data (n : Nat) : NoFail [ReadEv.data n] := by
  intro e he k
  simp only [List.mem_singleton] at he
  subst he
  intro h; cases h

theorem noFail_intr : NoFail [ReadEv.intr] := by
  intro e he k
  simp only [List.mem_singleton] at he
  subst he
  intro h; cases h

/-- In a script `used ++ fail k :: rest` with `NoFail used` the kind of the first failing event is
determined. -/
theorem first_fail_kind {u1 u2 r1 r2 : List ReadEv} {k1 k2 : IoKind}
    (h1 : NoFail u1) (h2 : NoFail u2)
    (h : u1 ++ ReadEv.fail k1 :: r1 = u2 ++ ReadEv.fail k2 :: r2) : k1 = k2 := by
  induction u1 generalizing u2 with
  | nil =>
    cases u2 with
    | nil => injection h with h; injection h
    | cons e u2 => injection h with he; exact absurd he.symm (h2 e List.mem_cons_self k1)
  | cons e u1 ih =>
    cases u2 with
    | nil => injection h with he; exact absurd he (h1 e List.mem_cons_self k2)
    | cons e' u2 =>
      injection h with _ ht
      exact ih (fun x hx => h1 x (List.mem_cons_of_mem _ hx))
        (fun x hx => h2 x (List.mem_cons_of_mem _ hx)) ht

/-- `b1` is reachable from `b` by successful / interrupted reads that consumed the script
prefix `used` and appended the next `m` input bytes to the buffer. -/
structure Step (b b1 : BufRd) (m : Nat) (used : List ReadEv) : Prop where
  cap : b1.cap = b.cap
  inp : b1.src.inp = b.src.inp
  cursor : b1.src.cursor = b.src.cursor + m
  chunk : b1.src.chunk = b.src.chunk
  seekFails : b1.src.seekFails = b.src.seekFails
  seekCount : b1.src.seekCount = b.src.seekCount
  buf : b1.buf = b.buf ++ (b.src.inp.drop b.src.cursor).take m
  script : b.src.script = used ++ b1.src.script
  nofail : NoFail used
  le : m ≤ min (b.cap - b.buf.length) b.src.remaining

theorem Step.refl (b : BufRd) : Step b b 0 [] where
  cap := rfl
  inp := rfl
  cursor := rfl
  chunk := rfl
  seekFails := rfl
  seekCount := rfl
  buf := by simp
  script := rfl
  nofail := noFail_nil
  le := Nat.zero_le _

theorem length_take_drop (l : List UInt8) (c m : Nat) (h : m ≤ l.length - c) :
    ((l.drop c).take m).length = m := by
  simp only [List.length_take, List.length_drop]
  omega

theorem Step.buf_length {b b1 : BufRd} {m : Nat} {used : List ReadEv} (h : Step b b1 m used) :
    b1.buf.length = b.buf.length + m := by
  have hle := h.le
  simp only [Src.remaining] at hle
  rw [h.buf, List.length_append, length_take_drop _ _ _ (by omega)]

theorem Step.remaining {b b1 : BufRd} {m : Nat} {used : List ReadEv} (h : Step b b1 m used) :
    b1.src.remaining = b.src.remaining - m := by
  simp only [Src.remaining, h.inp, h.cursor]
  omega

theorem Step.trans {b b1 b2 : BufRd} {m1 m2 : Nat} {u1 u2 : List ReadEv}
    (h1 : Step b b1 m1 u1) (h2 : Step b1 b2 m2 u2) : Step b b2 (m1 + m2) (u1 ++ u2) where
  cap := by rw [h2.cap, h1.cap]
  inp := by rw [h2.inp, h1.inp]
  cursor := by rw [h2.cursor, h1.cursor]; omega
  chunk := by rw [h2.chunk, h1.chunk]
  seekFails := by rw [h2.seekFails, h1.seekFails]
  seekCount := by rw [h2.seekCount, h1.seekCount]
  buf := by
    rw [h2.buf, h1.buf, h1.inp, h1.cursor, List.append_assoc, List.take_add, List.drop_drop]
  script := by rw [h1.script, h2.script, List.append_assoc]
  nofail := noFail_append h1.nofail h2.nofail
  le := by
    have l1 := Nat.le_min.mp h1.le
    have l2 := h2.le
    rw [h1.cap, h1.buf_length, h1.remaining, Nat.sub_add_eq] at l2
    have l2 := Nat.le_min.mp l2
    exact Nat.le_min.mpr ⟨Nat.add_le_of_le_sub' l1.1 l2.1, Nat.add_le_of_le_sub' l1.2 l2.2⟩

def adv (b : BufRd) (rest : List ReadEv) (m : Nat) : BufRd :=
  { b with src := { b.src with script := rest, cursor := b.src.cursor + m },
           buf := b.buf ++ (b.src.inp.drop b.src.cursor).take m }

theorem step_adv (b : BufRd) (used rest : List ReadEv) (m : Nat)
    (hs : b.src.script = used ++ rest) (hn : NoFail used)
    (hm : m ≤ min (b.cap - b.buf.length) b.src.remaining) : Step b (adv b rest m) m used where
  cap := rfl
  inp := rfl
  cursor := rfl
  chunk := rfl
  seekFails := rfl
  seekCount := rfl
  buf := rfl
  script := hs
  nofail := hn
  le := hm

/-- The number of bytes a read hands out when it may hand out `a > 0` bytes, there is room for `s`
and `r` bytes of input remain. -/
theorem min_remaining {a s r : Nat} (ha : 0 < a) (has : a ≤ s) :
    min a r ≤ min s r ∧ (min a r = 0 → r = 0) :=
  ⟨Nat.le_min.mpr ⟨Nat.le_trans (Nat.min_le_left _ _) has, Nat.min_le_right _ _⟩,
    fun h => (Nat.min_eq_zero_iff.mp h).resolve_left (Nat.ne_of_gt ha)⟩

/-- One call of `read_into_buf` with room in the buffer consumes a script prefix `used` and appends
`m` bytes. It reports a failing event, or an interruption, or `m`, and then `m = 0` only at the end
of the input. -/
theorem readIntoBuf_cases (b : BufRd) (hlt : b.buf.length < b.cap) :
    ∃ used rest m r, b.src.script = used ++ rest ∧ b.readIntoBuf = (adv b rest m, r) ∧
      m ≤ min (b.cap - b.buf.length) b.src.remaining ∧
      ((∃ k, used = [.fail k] ∧ r = .fail k ∧ m = 0) ∨
       NoFail used ∧ (r = .n m ∧ (m = 0 → b.src.remaining = 0) ∨
         r = .intr ∧ m = 0 ∧ 0 < used.length)) := by
  have hc : ¬ b.cap ≤ b.buf.length := Nat.not_le_of_gt hlt
  have hs0 : 0 < b.cap - b.buf.length := Nat.sub_pos_of_lt hlt
  match hs : b.src.script with
  | .data n :: rest =>
    have hm := min_remaining (r := b.src.remaining)
      (Nat.lt_min.mpr ⟨Nat.lt_of_lt_of_le Nat.one_pos (Nat.le_max_right n 1), hs0⟩)
      (Nat.min_le_right (max n 1) _)
    refine ⟨[.data n], rest, _, _, rfl, ?_, hm.1, Or.inr ⟨noFail_data n, Or.inl ⟨rfl, hm.2⟩⟩⟩
    simp only [BufRd.readIntoBuf, hc, if_false, Src.read, hs, adv]
  | .intr :: rest =>
    refine ⟨[.intr], rest, 0, _, rfl, ?_, Nat.zero_le _,
      Or.inr ⟨noFail_intr, Or.inr ⟨rfl, rfl, Nat.one_pos⟩⟩⟩
    simp only [BufRd.readIntoBuf, hc, if_false, Src.read, hs, adv, Nat.add_zero, List.take_zero]
  | .fail k :: rest =>
    refine ⟨[.fail k], rest, 0, _, rfl, ?_, Nat.zero_le _, Or.inl ⟨k, rfl, rfl, rfl⟩⟩
    simp only [BufRd.readIntoBuf, hc, if_false, Src.read, hs, adv, Nat.add_zero, List.take_zero]
  | [] =>
    have ha : 0 < (if b.src.chunk = 0 then b.cap - b.buf.length
        else min b.src.chunk (b.cap - b.buf.length)) ∧
        (if b.src.chunk = 0 then b.cap - b.buf.length
          else min b.src.chunk (b.cap - b.buf.length)) ≤ b.cap - b.buf.length := by
      split
      · exact ⟨hs0, Nat.le_refl _⟩
      · exact ⟨Nat.lt_min.mpr ⟨Nat.pos_of_ne_zero ‹_›, hs0⟩, Nat.min_le_right _ _⟩
    have hm := min_remaining (r := b.src.remaining) ha.1 ha.2
    refine ⟨[], [], _, _, rfl, ?_, hm.1, Or.inr ⟨noFail_nil, Or.inl ⟨rfl, hm.2⟩⟩⟩
    simp only [BufRd.readIntoBuf, hc, if_false, Src.read, hs, adv]

theorem fillBufAux_succ (fuel : Nat) (b : BufRd) (num : Nat) (hlt : b.buf.length < b.cap) :
    fillBufAux (fuel + 1) b num =
      match b.readIntoBuf with
      | (b', .n k) => if k = 0 then (b', .ok num) else fillBufAux fuel b' (num + k)
      | (b', .intr) => fillBufAux fuel b' num
      | (b', .fail k) => (b', .error k) := by
  rw [fillBufAux]
  simp only [hlt, if_true]
  rcases b.readIntoBuf with ⟨b', r⟩
  cases r with
  | n k => cases k <;> simp
  | intr => rfl
  | fail k => rfl

theorem fillBufAux_full (fuel : Nat) (b : BufRd) (num : Nat) (h : ¬ b.buf.length < b.cap) :
    fillBufAux fuel b num = (b, .ok num) := by
  cases fuel with
  | zero => rfl
  | succ fuel => rw [fillBufAux]; simp only [h, if_false]

/-- One iteration of the loop with room in the buffer: it stops at a failing event, stops at the
end of the input, or goes on from a state with a smaller measure. -/
theorem fillBufAux_iter (fuel : Nat) (b : BufRd) (num : Nat) (hlt : b.buf.length < b.cap) :
    (∃ k rest, b.src.script = .fail k :: rest ∧
        fillBufAux (fuel + 1) b num = (adv b rest 0, .error k)) ∨
    ∃ b1 m used, Step b b1 m used ∧
      (fillBufAux (fuel + 1) b num = (b1, .ok (num + m)) ∧ b1.src.remaining = 0 ∨
       fillBufAux (fuel + 1) b num = fillBufAux fuel b1 (num + m) ∧
         b1.fillMeasure < b.fillMeasure) := by
  obtain ⟨used, rest, m, r, hs, hr, hm, hc⟩ := readIntoBuf_cases b hlt
  rw [fillBufAux_succ _ _ _ hlt, hr]
  rcases hc with ⟨k, rfl, rfl, rfl⟩ | ⟨hnf, hc⟩
  · exact Or.inl ⟨k, rest, hs, rfl⟩
  · have hst := step_adv b used rest m hs hnf hm
    have hdec : 0 < used.length ∨ m ≠ 0 → (adv b rest m).fillMeasure < b.fillMeasure := by
      have hmr := Nat.le_trans hm (Nat.min_le_right _ _)
      have hrem := hst.remaining
      clear hm hst
      simp only [BufRd.fillMeasure, hrem, hs, List.length_append]
      simp only [adv]
      omega
    refine Or.inr ⟨_, m, used, hst, ?_⟩
    rcases hc with ⟨rfl, h0⟩ | ⟨rfl, rfl, hne⟩
    · by_cases hz : m = 0
      · subst hz
        exact Or.inl ⟨rfl, by rw [hst.remaining, h0 rfl]⟩
      · exact Or.inr ⟨if_neg hz, hdec (Or.inr hz)⟩
    · exact Or.inr ⟨rfl, hdec (Or.inl hne)⟩

/-- The loop reads up to some state `b0` by successful and interrupted reads; there it either
returns (with the buffer full or the input exhausted, given enough fuel) or meets a failing event. -/
theorem fillBufAux_spec (fuel : Nat) (b : BufRd) (num : Nat) :
    ∃ b0 m used, Step b b0 m used ∧
      (fillBufAux fuel b num = (b0, .ok (num + m)) ∧
          (b.fillMeasure < fuel → b0.cap ≤ b0.buf.length ∨ b0.src.remaining = 0) ∨
       ∃ k rest, b0.src.script = .fail k :: rest ∧
          fillBufAux fuel b num = (adv b0 rest 0, .error k)) := by
  induction fuel generalizing b num with
  | zero => exact ⟨b, 0, [], Step.refl b, Or.inl ⟨rfl, fun h => absurd h (Nat.not_lt_zero _)⟩⟩
  | succ fuel ih =>
    by_cases hlt : b.buf.length < b.cap
    · rcases fillBufAux_iter fuel b num hlt with
        ⟨k, rest, hs, he⟩ | ⟨b1, m, used, hst, ⟨he, hrem⟩ | ⟨he, hm⟩⟩
      · exact ⟨b, 0, [], Step.refl b, Or.inr ⟨k, rest, hs, he⟩⟩
      · exact ⟨b1, m, used, hst, Or.inl ⟨he, fun _ => Or.inr hrem⟩⟩
      · obtain ⟨b0, m', used', hst', h⟩ := ih b1 (num + m)
        refine ⟨b0, m + m', used ++ used', hst.trans hst', ?_⟩
        rw [he, ← Nat.add_assoc]
        rcases h with ⟨h, hend⟩ | h
        · exact Or.inl ⟨h, fun hf => hend (by omega)⟩
        · exact Or.inr h
    · exact ⟨b, 0, [], Step.refl b,
        Or.inl ⟨fillBufAux_full _ _ _ hlt, fun _ => Or.inl (Nat.le_of_not_lt hlt)⟩⟩

theorem fillBuf_ok (b b' : BufRd) (n : Nat) (h : fillBuf b = (b', .ok n)) :
    n = min (b.cap - b.buf.length) b.src.remaining ∧ ∃ used, Step b b' n used := by
  obtain ⟨b0, m, used, hst, ⟨he, hend⟩ | ⟨k, rest, -, he⟩⟩ := fillBufAux_spec _ b 0
  · rw [fillBuf, he, Nat.zero_add] at h
    cases h
    have hle := hst.le
    have hend := hend (Nat.lt_succ_self _)
    rw [hst.cap, hst.buf_length, hst.remaining] at hend
    refine ⟨Nat.le_antisymm hle ?_, used, hst⟩
    rcases hend with h | h
    · exact Nat.le_trans (Nat.min_le_left _ _) (Nat.sub_le_iff_le_add'.mpr h)
    · exact Nat.le_trans (Nat.min_le_right _ _) (Nat.le_of_sub_eq_zero h)
  · rw [fillBuf, he] at h; cases h

/-- A failing `fill_buf` has read up to some `b0` whose script starts with the failing event;
it returns `b0` without that event. -/
theorem fillBuf_error_state (b b' : BufRd) (k : IoKind) (h : fillBuf b = (b', .error k)) :
    ∃ b0 m used rest, Step b b0 m used ∧ b0.src.script = .fail k :: rest ∧
      b' = { b0 with src := { b0.src with script := rest } } := by
  obtain ⟨b0, m, used, hst, ⟨he, -⟩ | ⟨k', rest, hs, he⟩⟩ := fillBufAux_spec _ b 0
  · rw [fillBuf, he] at h; cases h
  · rw [fillBuf, he] at h
    cases h
    exact ⟨b0, m, used, rest, hst, hs, by simp only [adv, Nat.add_zero, List.take_zero, List.append_nil]⟩

theorem fillBuf_error (b b' : BufRd) (k : IoKind) (h : fillBuf b = (b', .error k)) :
    ∃ used rest m, b.src.script = used ++ ReadEv.fail k :: rest ∧ NoFail used ∧
      b'.src.script = rest ∧
      m ≤ min (b.cap - b.buf.length) b.src.remaining ∧
      b'.buf = b.buf ++ (b.src.inp.drop b.src.cursor).take m ∧
      b'.cap = b.cap ∧ b'.src.inp = b.src.inp ∧ b'.src.cursor = b.src.cursor + m := by
  obtain ⟨b0, m, used, rest, hst, hs, rfl⟩ := fillBuf_error_state b b' k h
  exact ⟨used, rest, m, by rw [hst.script, hs], hst.nofail, rfl, hst.le, hst.buf, hst.cap, hst.inp,
    hst.cursor⟩

theorem fillBuf_spec (b : BufRd) :
    match fillBuf b with
    | (b', .ok n) =>
        -- success: exactly `min(free space, remaining input)` bytes are appended,
        -- whatever the script said
        n = min (b.cap - b.buf.length) b.src.remaining ∧
        b'.buf = b.buf ++ (b.src.inp.drop b.src.cursor).take n ∧
        b'.cap = b.cap ∧ b'.src.inp = b.src.inp ∧ b'.src.cursor = b.src.cursor + n ∧
        b'.src.chunk = b.src.chunk ∧ b'.src.seekFails = b.src.seekFails ∧
        b'.src.seekCount = b.src.seekCount ∧
        (∃ used, b.src.script = used ++ b'.src.script ∧ NoFail used)
    | (b', .error k) =>
        -- failure: `k` is the kind of the FIRST failing event of the script;
        -- everything read before stays in the buffer
        ∃ used rest m, b.src.script = used ++ ReadEv.fail k :: rest ∧ NoFail used ∧
          b'.src.script = rest ∧
          m ≤ min (b.cap - b.buf.length) b.src.remaining ∧
          b'.buf = b.buf ++ (b.src.inp.drop b.src.cursor).take m ∧
          b'.cap = b.cap ∧ b'.src.inp = b.src.inp ∧ b'.src.cursor = b.src.cursor + m := by
  split
  · rename_i b' n h
    obtain ⟨hn, used, hst⟩ := fillBuf_ok b b' n h
    exact ⟨hn, hst.buf, hst.cap, hst.inp, hst.cursor, hst.chunk, hst.seekFails, hst.seekCount,
      used, hst.script, hst.nofail⟩
  · rename_i b' k h
    exact fillBuf_error b b' k h

theorem fillBuf_noFail_ok (b : BufRd) (h : NoFail b.src.script) :
    ∃ b' n, fillBuf b = (b', .ok n) := by
  match hr : fillBuf b with
  | (b', .ok n) => exact ⟨b', n, rfl⟩
  | (b', .error k) =>
    obtain ⟨used, rest, m, hs, -⟩ := fillBuf_error b b' k hr
    exact absurd rfl (h (.fail k) (by rw [hs]; simp) k)

/-- without failing events the result does not depend on the script or the chunk limit -/
theorem fillBuf_chunk_independent (b : BufRd) (script : List ReadEv) (chunk : Nat)
    (h1 : NoFail b.src.script) (h2 : NoFail script) :
    let b2 : BufRd := { b with src := { b.src with script := script, chunk := chunk } }
    (fillBuf b).1.buf = (fillBuf b2).1.buf ∧ (fillBuf b).2 = (fillBuf b2).2 ∧
    (fillBuf b).1.src.cursor = (fillBuf b2).1.src.cursor := by
  intro b2
  obtain ⟨b', n, hr⟩ := fillBuf_noFail_ok b h1
  obtain ⟨b2', n2, hr2⟩ := fillBuf_noFail_ok b2 h2
  obtain ⟨hn, u, hst⟩ := fillBuf_ok b b' n hr
  obtain ⟨hn2, u2, hst2⟩ := fillBuf_ok b2 b2' n2 hr2
  have hnn : n2 = n := by rw [hn, hn2]; rfl
  subst hnn
  rw [hr, hr2]
  exact ⟨by rw [hst.buf, hst2.buf], rfl, by rw [hst.cursor, hst2.cursor]⟩

theorem fillBuf_full_or_eof (b b' : BufRd) (n : Nat) (h : fillBuf b = (b', .ok n)) :
    b'.buf.length < b'.cap → b'.src.remaining = 0 := by
  obtain ⟨hn, u, hst⟩ := fillBuf_ok b b' n h
  rw [hst.cap, hst.buf_length, hst.remaining]
  omega

/-- the kind reported by a failing `fill_buf` is determined by the script alone: it is the kind
of the first failing event, for whatever decomposition `used ++ fail k :: rest` one finds -/
theorem fillBuf_error_kind (b b' : BufRd) (k k' : IoKind) (used rest : List ReadEv)
    (h : fillBuf b = (b', .error k))
    (hs : b.src.script = used ++ ReadEv.fail k' :: rest) (hn : NoFail used) : k = k' := by
  obtain ⟨u, r, m, hs', hn', -⟩ := fillBuf_error b b' k h
  exact first_fail_kind hn' hn (hs'.symm.trans hs)

theorem noFail_suffix {u s : List ReadEv} (h : NoFail (u ++ s)) : NoFail s :=
  fun e he k => h e (List.mem_append_right u he) k

theorem reserve_src (b : BufRd) (a : Nat) : (b.reserve a).src = b.src := by
  unfold BufRd.reserve
  simp only
  split
  · rfl
  · split <;> rfl

end SeqIo.FillProofs
