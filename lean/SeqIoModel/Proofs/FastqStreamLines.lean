import SeqIoModel.Model.Stream
import SeqIoModel.Proofs.WriteRoundtrip
/-!
# Lines of a FASTQ text

`nl t a` = offset just after the first LF at or after offset `a` of the text `t`
(what `Reader::find_line` computes), its algebra (prefix stability, shift), the relation to
`splitLF`, and the case analysis of the reference `Spec.fqGo`.
-/

namespace SeqIo.Fastq
open SeqIo SeqIo.Spec SeqIo.WriteProofs

/-! ## `findLF` -/

theorem findLF_some {l : List UInt8} {p : Nat} (h : findLF l = some p) :
    p < l.length ∧ l[p]? = some LF ∧ LF ∉ l.take p ∧ l = l.take p ++ LF :: l.drop (p + 1) := by
  induction l generalizing p with
  | nil => simp [findLF] at h
  | cons b rest ih =>
    simp only [findLF] at h
    split at h
    · rename_i hb
      simp only [Option.some.injEq] at h
      subst h; subst hb
      simp
    · rename_i hb
      cases hr : findLF rest with
      | none => simp [hr] at h
      | some q =>
        simp only [hr, Option.map_some, Option.some.injEq] at h
        subst h
        obtain ⟨h1, h0, h2, h3⟩ := ih hr
        refine ⟨by simp; omega, by simpa using h0, ?_, ?_⟩
        · simp only [List.take_succ_cons, List.mem_cons, not_or]
          exact ⟨fun e => hb e.symm, h2⟩
        · simp only [List.take_succ_cons, List.drop_succ_cons, List.cons_append, List.cons.injEq,
            true_and]
          exact h3

theorem findLF_none {l : List UInt8} (h : findLF l = none) : LF ∉ l := by
  induction l with
  | nil => simp
  | cons b rest ih =>
    simp only [findLF] at h
    split at h
    · simp at h
    · rename_i hb
      simp only [Option.map_eq_none_iff] at h
      simp only [List.mem_cons, not_or]
      exact ⟨fun e => hb e.symm, ih h⟩

theorem findLF_append {l : List UInt8} {p : Nat} (e : List UInt8) (h : findLF l = some p) :
    findLF (l ++ e) = some p := by
  induction l generalizing p with
  | nil => simp [findLF] at h
  | cons b rest ih =>
    simp only [findLF, List.cons_append] at h ⊢
    split
    · rename_i hb; simpa [hb] using h
    · rename_i hb
      simp only [hb, if_false] at h
      cases hr : findLF rest with
      | none => simp [hr] at h
      | some q =>
        simp only [hr, Option.map_some, Option.some.injEq] at h
        simp [ih hr, h]

/-! ## `nl` -/

def nl (t : List UInt8) (a : Nat) : Option Nat := (findLF (t.drop a)).map (fun p => a + p + 1)

theorem findLine_eq (buf : List UInt8) (a : Nat) :
    findLine buf a = if a ≤ buf.length then some (nl buf a) else none := rfl

theorem findLine_of_le {buf : List UInt8} {a : Nat} (h : a ≤ buf.length) :
    findLine buf a = some (nl buf a) := by simp [findLine_eq, h]

/-- the piece of `t` between offset `a` and the LF before offset `b` -/
def piece (t : List UInt8) (a b : Nat) : List UInt8 := (t.take (b - 1)).drop a

theorem piece_length (t : List UInt8) (a b : Nat) (hb : b - 1 ≤ t.length) :
    (piece t a b).length = b - 1 - a := by
  simp only [piece, List.length_drop, List.length_take]; omega

theorem nl_some {t : List UInt8} {a b : Nat} (h : nl t a = some b) :
    a < b ∧ b ≤ t.length ∧ t[b - 1]? = some LF ∧ LF ∉ piece t a b ∧
      t.drop a = piece t a b ++ LF :: t.drop b := by
  unfold nl at h
  cases hf : findLF (t.drop a) with
  | none => simp [hf] at h
  | some p =>
    simp only [hf, Option.map_some, Option.some.injEq] at h
    subst h
    obtain ⟨h1, h0, h2, h3⟩ := findLF_some hf
    simp only [List.length_drop] at h1
    have hp : piece t a (a + p + 1) = (t.drop a).take p := by
      simp only [piece, Nat.add_sub_cancel, List.take_drop]
    refine ⟨by omega, by omega, ?_, by rw [hp]; exact h2, ?_⟩
    · simpa [List.getElem?_drop] using h0
    · rw [hp]
      have : t.drop (a + p + 1) = (t.drop a).drop (p + 1) := by
        rw [List.drop_drop]; congr 1
      rw [this]
      exact h3

theorem nl_lt {t : List UInt8} {a b : Nat} (h : nl t a = some b) : a < b := (nl_some h).1

theorem nl_le {t : List UInt8} {a b : Nat} (h : nl t a = some b) : b ≤ t.length := (nl_some h).2.1

theorem nl_lf {t : List UInt8} {a b : Nat} (h : nl t a = some b) : t[b - 1]? = some LF :=
  (nl_some h).2.2.1

theorem nl_piece_length {t : List UInt8} {a b : Nat} (h : nl t a = some b) :
    (piece t a b).length + a + 1 = b := by
  obtain ⟨h1, h2, -⟩ := nl_some h
  rw [piece_length t a b (by omega)]
  omega

theorem nl_none {t : List UInt8} {a : Nat} (h : nl t a = none) : LF ∉ t.drop a := by
  unfold nl at h
  simp only [Option.map_eq_none_iff] at h
  exact findLF_none h

theorem nl_append {t : List UInt8} {a b : Nat} (e : List UInt8) (h : nl t a = some b) :
    nl (t ++ e) a = some b := by
  have hb := (nl_some h)
  unfold nl at h ⊢
  cases hf : findLF (t.drop a) with
  | none => simp [hf] at h
  | some p =>
    simp only [hf, Option.map_some, Option.some.injEq] at h
    rw [List.drop_append_of_le_length (by omega), findLF_append e hf]
    simp [h]

theorem nl_drop {t : List UInt8} {a : Nat} (c : Nat) (hc : c ≤ a) :
    nl (t.drop c) (a - c) = (nl t a).map (· - c) := by
  unfold nl
  have : (t.drop c).drop (a - c) = t.drop a := by
    rw [List.drop_drop]; congr 1; omega
  rw [this]
  cases findLF (t.drop a) with
  | none => rfl
  | some p => simp; omega

theorem nl_drop_some {t : List UInt8} {a b : Nat} (c : Nat) (hc : c ≤ a) (h : nl t a = some b) :
    nl (t.drop c) (a - c) = some (b - c) := by
  rw [nl_drop c hc, h]; rfl

/-! ## `splitLF` along `nl` -/

theorem splitLF_nl_some {t : List UInt8} {a b : Nat} (e : List UInt8) (h : nl t a = some b) :
    splitLF (t.drop a ++ e) = piece t a b :: splitLF (t.drop b ++ e) := by
  obtain ⟨_, _, _, h4, h5⟩ := nl_some h
  rw [h5, List.append_assoc, List.cons_append, splitLF_append _ _ h4]

theorem splitLF_nl_some' {t : List UInt8} {a b : Nat} (h : nl t a = some b) :
    splitLF (t.drop a) = piece t a b :: splitLF (t.drop b) := by
  have := splitLF_nl_some [] h
  rwa [List.append_nil, List.append_nil] at this

theorem splitLF_nl_none {t : List UInt8} {a : Nat} (h : nl t a = none) :
    splitLF (t.drop a) = [t.drop a] :=
  splitLF_noLF _ (nl_none h)

/-! ## the cases of `fqGo` -/

theorem fqGo_four (strict : Bool) (h s p q : List UInt8) (ps : List (List UInt8)) (hps : ps ≠ [])
    (byte line : Nat) :
    fqGo strict (h :: s :: p :: q :: ps) byte line =
      match fqGroup strict h s p q byte line with
      | .record x => .record x :: fqGo strict ps
          (byte + h.length + s.length + p.length + q.length + 4) (line + 4)
      | .err e b l => [.err e b l] := by
  cases ps with
  | nil => exact absurd rfl hps
  | cons r rest => rw [fqGo]; split <;> simp_all

theorem fqGo_three (strict : Bool) (h s p q : List UInt8) (byte line : Nat) :
    fqGo strict [h, s, p, q] byte line = [fqGroup strict h s p q byte line true] := by
  rw [fqGo]

theorem fqGo_few (strict : Bool) (ps : List (List UInt8)) (hps : ps.length ≤ 3) (byte line : Nat) :
    fqGo strict ps byte line =
      if ps.all blank then []
      else [.err (.unexpectedEnd (line + (ps.length - 1))
        (if ps.length - 1 ≥ 1 then errId (ps.headD []) else none)) byte line] := by
  match ps, hps with
  | [], _ => rw [fqGo]; all_goals simp
  | [a], _ => rw [fqGo]; all_goals simp
  | [a, b], _ => rw [fqGo]; all_goals simp
  | [a, b, c], _ => rw [fqGo]; all_goals simp

end SeqIo.Fastq
