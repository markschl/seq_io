import SeqIoModel.Proofs.FastqSeekAfterFault
import SeqIoModel.Proofs.AbstractReader
/-!
# C06, order (FASTQ): after errors, further records come IN ORDER

`fastq_history_genuine` (C06) says that every record shown by any history is a record of
`Spec.fastq inp`.  This file adds the order: every operation without a seek leaves the reader
`Good inp False` for items `its'` such that (what it delivered) ++ `its'` is a sub-sequence of the
items `its` before.  Every error but a failed FIRST refill finishes the reader; after a failed first
refill the reader is still `new` and nothing had been delivered.
-/

namespace SeqIo.Fastq
open SeqIo SeqIo.Spec SeqIo.FillProofs SeqIo.Fastq.Hist SeqIo.WriteProofs

/-! ## histories: what is delivered, in the order of the calls -/

namespace Hist

def single : ObsH → List Rec
  | .record x => [x]
  | _ => []

/-- the records shown by single reads (`next` / owned reads), in the order they were returned -/
def singles : List ObsH → List Rec
  | [] => []
  | o :: os => single o ++ singles os

/-- the records an iteration over a set shows -/
def shown : ObsH → List Rec
  | .dump xs => xs
  | _ => []

/-- the records one operation delivers: the record of a single read, and for a record set read
that returned `Some(Ok(()))` the records a `dump` of that set shows right after the call -/
def deliveredBy (m : MSt) : Op → List Rec
  | .set j n =>
    match (stepM m (.set j n)).2 with
    | .batch _ => shown (stepM (stepM m (.set j n)).1 (.dump j)).2
    | _ => []
  | op => single (stepM m op).2

def delivered (m : MSt) : List Op → List Rec
  | [] => []
  | op :: ops => deliveredBy m op ++ delivered (stepM m op).1 ops

end Hist

def recsIn (its : List FqItem) : List Rec :=
  its.filterMap fun
    | .record x => some (recOf x)
    | .err _ _ _ => none

theorem allRecs_eq (inp : List UInt8) : allRecs inp = recsIn (Spec.fastq inp) := rfl

theorem recsIn_records (ys : List FqRec) (rest : List FqItem) :
    recsIn (ys.map FqItem.record ++ rest) = ys.map recOf ++ recsIn rest := by
  induction ys with
  | nil => rfl
  | cons y ys ih =>
    show recOf y :: recsIn (ys.map FqItem.record ++ rest) = _
    rw [ih]
    rfl

theorem single_obsSet (rs : RecordSet) (res : Res Bool) : single (obsSet rs res) = [] := by
  rcases res with (b | _ | _ | _)
  · cases b <;> rfl
  all_goals rfl

theorem single_obsDump (rs : RecordSet) : single (obsDump rs) = [] := by
  unfold obsDump
  split <;> rfl

theorem getSet_self (m : MSt) (j : Nat) (rs : RecordSet) : (m.putSet j rs).getSet j = rs := by
  rw [MSt.getSet_putSet, if_pos rfl]

/-- a record set read from a good state: a batch of `c` records is a segment `ys` (`c = ys.length`,
`c ≥ 1`) of S's records at the front of the items ahead – this is what a `dump` of the set shows
right after the call – and leaves the items behind it; every other outcome leaves no items or the
same items -/
theorem set_stepQ (inp : List UInt8) (m : MSt) (its : List FqItem) (hg : Good inp False m.r its)
    (j : Nat) (n : Option Nat) (hwf : (Op.set j n).wf = true) :
    (∃ (ys : List FqRec) (its' : List FqItem), its = ys.map FqItem.record ++ its' ∧ ys ≠ [] ∧
        (stepM m (.set j n)).2 = .batch ys.length ∧
        (stepM (stepM m (.set j n)).1 (.dump j)).2 = .dump (ys.map recOf) ∧
        Good inp False (stepM m (.set j n)).1.r its') ∨
    ((∀ c, (stepM m (.set j n)).2 ≠ .batch c) ∧
      ∃ its', Good inp False (stepM m (.set j n)).1.r its' ∧ (its' = [] ∨ its' = its)) := by
  have hR := readSet_spec inp False (fuelOf m.r) m.r (m.getSet j) n its hg (fuelOf_ge m.r) (wf_set hwf)
  simp only [stepM, stepSet]
  rcases hx : readRecordSetExact (fuelOf m.r) m.r (m.getSet j) n with ⟨r', rs', res⟩
  rw [hx] at hR
  simp only at hR ⊢
  rw [MSt.putSet_r, getSet_self]
  have noBatch : res ≠ .ok true → ∀ c, obsSet rs' res ≠ .batch c := by
    intro hr c hc
    rcases res with (b | _ | _ | _)
    · cases b
      · cases hc
      · exact absurd rfl hr
    all_goals cases hc
  rcases hR with ⟨hr, ys, its', hi, hv, hne, hl, -⟩ | ⟨hr, -, hfin, -⟩ |
    ⟨ys, e, b, l, hr, -, -, hfin, -⟩ | ⟨e, hr, -, -, -, hfin⟩ | ⟨-, hres, -, its', hg', -, hi⟩
  · subst hr
    refine Or.inl ⟨ys, its', hi, hne, ?_, ?_, hl.1⟩
    · have := viewAll_length hv
      simp only [List.length_map] at this
      simp only [obsSet, this]
    · simp only [obsDump, hv]
  · exact Or.inr ⟨noBatch (by subst hr; nofun), [], hfin.good, Or.inl rfl⟩
  · exact Or.inr ⟨noBatch (by subst hr; nofun), [], hfin.good, Or.inl rfl⟩
  · exact Or.inr ⟨noBatch (by subst hr; nofun), [], hfin.good, Or.inl rfl⟩
  · exact Or.inr ⟨noBatch (by rcases hres with h | ⟨k, h⟩ <;> subst h <;> nofun), its', hg', hi⟩

theorem stepQ_nothing {inp : List UInt8} {r' : Reader} {its its' : List FqItem} {d : List Rec}
    (hd : d = []) (hg' : Good inp False r' its') (hi : its' = [] ∨ its' = its) :
    ∃ (ys : List FqRec) (its' : List FqItem), Good inp False r' its' ∧
      d = ys.map recOf ∧ (ys.map FqItem.record ++ its').Sublist its := by
  refine ⟨[], its', hg', hd, ?_⟩
  rcases hi with rfl | rfl
  · exact List.nil_sublist _
  · exact List.Sublist.refl _

/-- **every operation but a seek: (what it delivers) ++ (the items S prescribes afterwards) is a
sub-sequence of the items S prescribed before** -/
theorem stepQ (inp : List UInt8) (m : MSt) (its : List FqItem) (hg : Good inp False m.r its)
    (op : Op) (hwf : op.wf = true) (hop : op.isSeek = false) :
    ∃ (ys : List FqRec) (its' : List FqItem), Good inp False (stepM m op).1.r its' ∧
      deliveredBy m op = ys.map recOf ∧ (ys.map FqItem.record ++ its').Sublist its := by
  have nextCase : ∃ (ys : List FqRec) (its' : List FqItem), Good inp False (stepNext m).1.r its' ∧
      single (stepNext m).2 = ys.map recOf ∧ (ys.map FqItem.record ++ its').Sublist its := by
    simp only [stepNext]
    rcases next_found inp False (fuelOf m.r) m.r its hg (by have := fuelOf_ge m.r; omega) with
      (⟨hr, x, its', hi, hsh⟩ | ⟨hr, hi, hfin⟩ | ⟨e, b, l, hr, hi, hfin⟩ | ⟨e, hr, -, -, hfin⟩) |
      ⟨-, hres, its', hg', -, hi⟩
    · refine ⟨[x], its', hsh.good, ?_, hi ▸ List.Sublist.refl _⟩
      simp only [hr, obsNext, hsh.view]
      rfl
    · exact stepQ_nothing (by rw [hr]; rfl) hfin.good (Or.inl rfl)
    · exact stepQ_nothing (by rw [hr]; rfl) hfin.good (Or.inl rfl)
    · exact stepQ_nothing (by rw [hr]; rfl) hfin.good (Or.inl rfl)
    · exact stepQ_nothing (by rcases hres with h | ⟨k, h⟩ <;> rw [h] <;> rfl) hg' hi
  cases op with
  | next => exact nextCase
  | owned => exact nextCase
  | set j n =>
    rcases set_stepQ inp m its hg j n hwf with ⟨ys, its', hi, -, hb, hd, hg'⟩ | ⟨hnb, its', hg', hi⟩
    · exact ⟨ys, its', hg', by simp only [deliveredBy, hb, hd, shown], hi ▸ List.Sublist.refl _⟩
    · refine stepQ_nothing ?_ hg' hi
      -- the observation is no `batch` (`hnb`): the catch-all case of `deliveredBy`
      simp only [deliveredBy]
  | dump j => exact ⟨[], its, hg, single_obsDump _, List.Sublist.refl _⟩
  | pos => exact ⟨[], its, hg, rfl, List.Sublist.refl _⟩
  | seekItem i => cases hop

/-- along a well-formed history without seeks, everything delivered is a sub-sequence of the
records among the items ahead -/
theorem delivered_sublist (inp : List UInt8) : ∀ (ops : List Op) (m : MSt) (its : List FqItem),
    Good inp False m.r its → (∀ op ∈ ops, op.wf = true) → SeekFree ops →
    (delivered m ops).Sublist (recsIn its) := by
  intro ops
  induction ops with
  | nil => intro m its _ _ _; exact List.nil_sublist _
  | cons op ops ih =>
    intro m its hg hops hsf
    obtain ⟨ys, its', hg', hd, hsub⟩ :=
      stepQ inp m its hg op (hops op List.mem_cons_self) (hsf op List.mem_cons_self)
    have := ih (stepM m op).1 its' hg' (fun o ho => hops o (List.mem_cons_of_mem _ ho))
      (fun o ho => hsf o (List.mem_cons_of_mem _ ho))
    show (deliveredBy m op ++ delivered (stepM m op).1 ops).Sublist _
    rw [hd]
    have h1 : (ys.map recOf ++ delivered (stepM m op).1 ops).Sublist
        (recsIn (ys.map FqItem.record ++ its')) := by
      rw [recsIn_records]
      exact List.Sublist.append (List.Sublist.refl _) this
    exact h1.trans (hsub.filterMap _)

theorem singles_sublist_delivered : ∀ (ops : List Op) (m : MSt),
    (singles (runM m ops)).Sublist (delivered m ops) := by
  intro ops
  induction ops with
  | nil => intro m; exact List.Sublist.refl _
  | cons op ops ih =>
    intro m
    show (single (stepM m op).2 ++ singles (runM (stepM m op).1 ops)).Sublist
      (deliveredBy m op ++ delivered (stepM m op).1 ops)
    refine List.Sublist.append ?_ (ih _)
    cases op with
    | set j n => exact (single_obsSet _ _ : single (stepM m (.set j n)).2 = []) ▸ List.nil_sublist _
    | _ => exact List.Sublist.refl _

/-- **C06, order, all deliveries (FASTQ).** For every input, capacity ≥ 3, policy that answers more
than it is passed or refuses, read script (failures of any kind at any call), scripted seek failures
and well-formed history WITHOUT seeks: all records delivered – by `next`, by owned reads and by
record set reads (each batch as a `dump` right after the call shows it), in the order of the calls –
form a sub-sequence of S's records: none twice, none out of order. -/
theorem fastq_all_delivered_in_order_after_faults (inp : List UInt8) (cap : Nat) (hcap : 3 ≤ cap)
    (pol : Pol) (hpol : PolWf pol) (script : List ReadEv) (chunk : Nat)
    (seekFails : List (Nat × IoKind)) (ops : List Op) (hops : ∀ op ∈ ops, op.wf = true)
    (hsf : SeekFree ops) :
    List.Sublist (delivered (mkM inp cap pol script chunk seekFails) ops) (allRecs inp) :=
  delivered_sublist inp ops _ _
    (good_mkReader_env inp False cap hcap pol (PolWf.wf1 hpol) (fun h => h.elim) script
      (fun h => h.elim) chunk seekFails (fun h => h.elim)) hops hsf

/-- **C06, order, single reads (FASTQ).** The records returned by single reads form, in the order
they were returned, a sub-sequence of S's records. -/
theorem fastq_records_in_order_after_faults (inp : List UInt8) (cap : Nat) (hcap : 3 ≤ cap)
    (pol : Pol) (hpol : PolWf pol) (script : List ReadEv) (chunk : Nat)
    (seekFails : List (Nat × IoKind)) (ops : List Op) (hops : ∀ op ∈ ops, op.wf = true)
    (hsf : SeekFree ops) :
    List.Sublist (singles (runM (mkM inp cap pol script chunk seekFails) ops)) (allRecs inp) :=
  (singles_sublist_delivered ops _).trans
    (fastq_all_delivered_in_order_after_faults inp cap hcap pol hpol script chunk seekFails ops hops hsf)

/-- **every batch is a contiguous segment** (histories WITH seeks included): whenever, after any
well-formed history, a record set read returns `Some(Ok(()))` with `c` records, a `dump` of that
set right after the call shows exactly `c ≥ 1` consecutive records of S: the items `k, …, k + c - 1`
of S are records, and the dump shows them. -/
theorem fastq_batch_contiguous_after_faults (inp : List UInt8) (cap : Nat) (hcap : 3 ≤ cap)
    (pol : Pol) (hpol : PolWf pol) (script : List ReadEv) (chunk : Nat)
    (seekFails : List (Nat × IoKind)) (ops : List Op) (hops : ∀ op ∈ ops, op.wf = true)
    (j : Nat) (n : Option Nat) (hwf : (Op.set j n).wf = true) (c : Nat) (o : ObsH)
    (h : runM (mkM inp cap pol script chunk seekFails) (ops ++ [.set j n, .dump j]) =
      runM (mkM inp cap pol script chunk seekFails) ops ++ [.batch c, o]) :
    ∃ (k : Nat) (ys : List FqRec), 1 ≤ c ∧ ys.length = c ∧
      ((Spec.fastq inp).drop k).take c = ys.map FqItem.record ∧ o = .dump (ys.map recOf) := by
  rw [runM_append] at h
  have h' := List.append_cancel_left h
  generalize hm : runMSt (mkM inp cap pol script chunk seekFails) ops = m at h'
  have hgen : GenM inp m := by
    rw [← hm]
    exact (genM_runMSt inp ops _
      (genM_mkM inp cap hcap pol (PolWf.wf1 hpol) script chunk seekFails) hops).1
  obtain ⟨⟨k, hg⟩, -⟩ := hgen
  have e : runM m [.set j n, .dump j] =
      [(stepM m (.set j n)).2, (stepM (stepM m (.set j n)).1 (.dump j)).2] := rfl
  rw [e] at h'
  simp only [List.cons.injEq, and_true] at h'
  rcases set_stepQ inp m _ hg j n hwf with ⟨ys, its', hi, hne, hb, hd, -⟩ | ⟨hnb, -⟩
  · rw [hb] at h'
    have hc : ys.length = c := by
      have := h'.1
      injection this
    refine ⟨k, ys, ?_, hc, ?_, by rw [← h'.2]; exact hd⟩
    · rw [← hc]
      cases ys with
      | nil => exact absurd rfl hne
      | cons y ys => simp
    · rw [hi, ← hc]
      have : (ys.map FqItem.record).length = ys.length := List.length_map _
      rw [← this, List.take_left]
  · exact absurd h'.1 (hnb c)

end SeqIo.Fastq

/-! ## non-vacuity: concrete data (checked by `decide`) -/

namespace SeqIo.Fastq.OrderAfterFaultExample
open SeqIo.Fastq.Hist

/-- `@a\nAC\n+\nII\n@b\nGG\n+\nII\n` -/
def inp : List UInt8 :=
  [64, 97, 10, 65, 67, 10, 43, 10, 73, 73, 10, 64, 98, 10, 71, 71, 10, 43, 10, 73, 73, 10]

example : allRecs inp =
    [{ head := [97], seq := [65, 67], qual := [73, 73] },
     { head := [98], seq := [71, 71], qual := [73, 73] }] := by decide +kernel

/-- capacity 64; the first refill hands out 10 bytes and then fails: the error is reported, the
reader stays `new`, and reading goes on – both records, in order -/
def m1 : MSt := mkM inp 64 PolDesc.std.toPol [.data 10, .fail 7] 0 []

example : runM m1 [.next, .next, .next, .next] =
    [.error (.io 7), .record { head := [97], seq := [65, 67], qual := [73, 73] },
      .record { head := [98], seq := [71, 71], qual := [73, 73] }, .none] := by decide +kernel

example : singles (runM m1 [.next, .next, .next, .next]) = allRecs inp := by decide +kernel

/-- the same with record set reads -/
example : runM m1 [.set 0 none, .set 0 none, .dump 0, .next] =
    [.error (.io 7), .batch 2,
      .dump [{ head := [97], seq := [65, 67], qual := [73, 73] },
             { head := [98], seq := [71, 71], qual := [73, 73] }], .none] := by decide +kernel

example : delivered m1 [.set 0 none, .set 0 none, .dump 0, .next] = allRecs inp := by decide +kernel

/-- capacity 12: an error of the first refill, a batch of one record, then a failed refill inside
`resume_incomplete_search`: that error finishes the reader – record `b` is never delivered
(sub-sequence, not all of S) -/
def m3 : MSt := mkM inp 12 PolDesc.std.toPol [.data 5, .fail 7, .data 7, .fail 8, .data 30] 0 []

example : runM m3 [.next, .set 1 (some 1), .dump 1, .next, .next, .next] =
    [.error (.io 7), .batch 1, .dump [{ head := [97], seq := [65, 67], qual := [73, 73] }],
      .error (.io 8), .none, .none] := by decide +kernel

example : delivered m3 [.next, .set 1 (some 1), .dump 1, .next, .next, .next] =
    [{ head := [97], seq := [65, 67], qual := [73, 73] }] := by decide +kernel

end SeqIo.Fastq.OrderAfterFaultExample
