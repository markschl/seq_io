import SeqIoModel.Proofs.Unchanged
import SeqIoModel.Proofs.RawSeq
/-!
# `write_unchanged` after `next()` copies the record's bytes (property C11, FASTA)

The record a `next()` call returns lies in the buffer as `Raw.RecAt` says, and its last offset is the
end of its last line (`scan_last`); so `write_unchanged` writes the record's extent in the input,
plus an LF unless the extent ends with one (`faEmit`).  Over a whole well-formed file the copies
add up to the file itself.
-/

open SeqIo SeqIo.Spec SeqIo.WriteProofs SeqIo.FillProofs SeqIo.Unchanged

namespace SeqIo.Fasta.Unch

/-! ## pure part: where the scan of a record puts its last line end -/

/-- the final `seq_pos` of the scan of a record that starts at `t` (offset `i`): it is not empty, and
its last entry is `i` + the length of the first `seq_pos.len()` lines of `t` joined by LF -/
theorem scan_last (t : List UInt8) (i : Nat) :
    1 ≤ (finalPos (scan t i [])).length ∧
    (finalPos (scan t i [])).getLast? =
      some (i + (joinLF ((splitLF t).take (finalPos (scan t i [])).length)).length) := by
  obtain ⟨L, rest, hne, hL, ht, hrest, hfin⟩ := Raw.scan_lineEnds t i
  have htake : (splitLF t).take L.length = L := by
    rcases hrest with rfl | ⟨r, rfl⟩
    · rw [ht, List.append_nil, splitLF_joinLF L hne hL, List.take_length]
    · rw [ht, ← List.singleton_append, ← List.append_assoc, joinLF_add_LF L hne,
        splitLF_unlines_append L hL, List.take_left' rfl]
  rw [hfin, Raw.length_lineEnds, htake, Raw.getLast?_lineEnds L i hne]
  exact ⟨List.length_pos_iff.mpr hne, rfl⟩

/-! ## what `write_unchanged` writes for a record lying as `RecAt` says -/

/-- a text followed by LF if it does not end with one: `write_unchanged`'s rule -/
def endLF (d : List UInt8) : List UInt8 := if d.getLast? = some LF then d else d ++ [LF]

theorem extent_ne_nil (inp : List UInt8) (s n : Nat) (hn : 0 < n)
    (hgt : (inp.drop s).head? = some GT) : extent inp s n ≠ [] := by
  obtain ⟨rest, h1, h2⟩ := extent_prefix inp s n hn
  intro e
  rw [e, List.nil_append] at h1
  rw [h1] at hgt
  rcases h2 with rfl | ⟨t, rfl⟩
  · simp at hgt
  · simp [LF, GT] at hgt

theorem recAt_writeUnchanged {inp : List UInt8} {r : Reader} {s : Nat} (h : Raw.RecAt inp r s) :
    1 ≤ r.bp.seqPos.length ∧
    writeUnchanged r.br.buf r.bp = some (endLF (extent inp s r.bp.seqPos.length)) := by
  have hs := h.le
  obtain ⟨hw, hd, _, hgt⟩ := h
  obtain ⟨h1, h2⟩ := scan_last (inp.drop s) s
  have hlen : (finalPos (scan (inp.drop s) s [])).length = r.bp.seqPos.length := by
    rw [← hd.fin, List.length_map]
  rw [hlen] at h1 h2
  refine ⟨h1, ?_⟩
  have hE : joinLF ((splitLF (inp.drop s)).take r.bp.seqPos.length) =
      extent inp s r.bp.seqPos.length := rfl
  rw [hE] at h2
  generalize hEd : extent inp s r.bp.seqPos.length = E at h2
  have hEne : E ≠ [] := by rw [← hEd]; exact extent_ne_nil inp s _ h1 hgt
  obtain ⟨rest, hpre, _⟩ := extent_prefix inp s r.bp.seqPos.length h1
  rw [hEd] at hpre
  -- the last position, relative to the buffer
  rw [← hd.fin, List.getLast?_map] at h2
  cases hl : r.bp.seqPos.getLast? with
  | none => rw [hl] at h2; cases h2
  | some l =>
    rw [hl] at h2
    simp only [Option.map_some, Option.some.injEq] at h2
    have hlle : l ≤ r.br.buf.length := hd.pos_le l (List.mem_of_getLast? hl)
    have hslice : slice r.br.buf r.bp.start l = some E := by
      rw [slice_shift inp r.br.buf _ (base r) hw.b.base_le hw.b.win r.bp.start l hlle, hd.start_eq, h2]
      apply slice_mid inp (inp.take s) E rest s
      · rw [List.append_assoc, ← hpre, List.take_append_drop]
      · simp only [List.length_take]; omega
    obtain ⟨c, hc⟩ : ∃ c, E.getLast? = some c := by
      cases hx : E.getLast? with
      | none => exact absurd (List.getLast?_eq_none_iff.mp hx) hEne
      | some c => exact ⟨c, rfl⟩
    simp only [writeUnchanged, hl, hslice, hc, endLF]
    by_cases hcl : c = LF
    · simp [hcl]
    · simp [hcl]

/-! ## the record of S -/

theorem observe_record {r : Reader} {res : Res Bool} {h : List UInt8} {ls : List (List UInt8)}
    {l b : Nat} (hobs : observe r res = .record h ls l b) :
    res = .ok true ∧ allSome (seqLines r.br.buf r.bp) = some ls ∧ r.byte = b ∧
      r.bp.seqPos ≠ [] := by
  rcases res with (_ | _) | _ | _ | _
  · cases hobs
  · simp only [observe] at hobs
    split at hobs
    · rename_i h' ls' l' b' _ hsl hpos
      simp only [Obs.record.injEq] at hobs
      obtain ⟨_, rfl, rfl, rfl⟩ := hobs
      unfold position at hpos
      split at hpos
      · cases hpos
      · rename_i hne
        simp only [Option.some.injEq, Prod.mk.injEq] at hpos
        refine ⟨rfl, hsl, hpos.2, ?_⟩
        intro e
        rw [e] at hne
        exact hne rfl
    · cases hobs
  all_goals cases hobs

theorem allSome_length {α : Type} : ∀ (xs : List (Option α)) (ys : List α),
    allSome xs = some ys → ys.length = xs.length := by
  intro xs
  induction xs with
  | nil => intro ys h; simp only [allSome, Option.some.injEq] at h; subst h; rfl
  | cons a xs ih =>
    intro ys h
    cases a with
    | none => simp [allSome] at h
    | some v =>
      simp only [allSome, Option.map_eq_some_iff] at h
      obtain ⟨zs, hz, rfl⟩ := h
      simp [ih zs hz]

theorem length_seqLines (buf : List UInt8) (bp : BufPos) :
    (seqLines buf bp).length = bp.seqPos.length - 1 := by
  unfold seqLines
  simp only [List.length_map, List.length_zip, List.length_drop]
  omega

theorem recBody_prefix (Ls : List (List UInt8)) : ∃ tl, Ls = recBody Ls ++ tl := by
  induction Ls with
  | nil => exact ⟨[], rfl⟩
  | cons l Ls ih =>
    unfold recBody
    split
    · exact ⟨l :: Ls, rfl⟩
    · obtain ⟨tl, htl⟩ := ih
      exact ⟨tl, by rw [List.cons_append, ← htl]⟩

theorem take_split_recBody (t l0 : List UInt8) (Ls : List (List UInt8)) (h : lines t = l0 :: Ls) :
    (splitLF t).take (1 + (recBody Ls).length) = l0 :: recBody Ls := by
  obtain ⟨tl, htl, _⟩ := splitLF_eq_lines t
  obtain ⟨tl', htl'⟩ := recBody_prefix Ls
  have e : splitLF t = (l0 :: recBody Ls) ++ (tl' ++ tl) := by
    rw [htl, h, List.cons_append, List.cons_append, ← List.append_assoc, ← htl']
  rw [e]
  apply List.take_left'
  simp only [List.length_cons]
  omega

theorem joinLF_getLast_LF (X : List (List UInt8)) (hno : ∀ l ∈ X, LF ∉ l)
    (h : (joinLF X).getLast? = some LF) : X.getLast? = some [] := by
  rcases List.eq_nil_or_concat X with rfl | ⟨Y, z, rfl⟩
  · simp [joinLF] at h
  · rw [List.concat_eq_append] at h hno ⊢
    rw [joinLF_concat] at h
    cases z with
    | nil => simp
    | cons a z' =>
      rw [List.getLast?_append] at h
      cases hv : (a :: z').getLast? with
      | none => simp at hv
      | some v =>
        rw [hv, Option.some_or] at h
        have hmem := List.mem_of_getLast? hv
        rw [Option.some.inj h] at hmem
        exact absurd hmem (hno (a :: z') (by simp))

theorem recAt_spec {inp : List UInt8} {r : Reader} {s : Nat} {x : FaRec} (h : Raw.RecAt inp r s)
    (hobs : observe r (.ok true) = toObs x) :
    x.byte = s ∧ 1 + x.seqLines.length = r.bp.seqPos.length ∧
    (x.seqLines.getLast? ≠ some [] → (rawFa inp x).getLast? ≠ some LF) := by
  unfold toObs at hobs
  obtain ⟨-, hsl, hb, hne⟩ := observe_record hobs
  have hxb : x.byte = s := by rw [← hb]; exact h.byte
  have hlen : 1 + x.seqLines.length = r.bp.seqPos.length := by
    rw [allSome_length _ _ hsl, length_seqLines]
    have : r.bp.seqPos.length ≠ 0 := fun e => hne (List.eq_nil_of_length_eq_zero e)
    omega
  refine ⟨hxb, hlen, ?_⟩
  intro hlast hraw
  have hgt := h.gt
  have hne' : inp.drop s ≠ [] := by intro e; rw [e] at hgt; simp at hgt
  have hs := h.le
  obtain ⟨l0, Ls, ps, post, hlines, hpost, hh, hfin, hsegs, hpl, _⟩ :=
    scan_lines (inp.drop s) hne' inp (inp.take s) s (List.take_append_drop s inp).symm
      (by simp only [List.length_take]; omega)
  have hx : x.seqLines = (recBody Ls).map trimCr := by
    have e := seqLines_shift inp r.br.buf _ (base r) h.win.b.base_le h.win.b.win r.bp h.done.pos_le
    have hbp : (⟨r.bp.start + base r, r.bp.seqPos.map (· + base r)⟩ : BufPos) =
        ⟨s, (s + l0.length) :: ps⟩ := by
      rw [h.done.start_eq, h.done.fin, hfin]
    rw [e, hbp, seqLines_cons, hsegs] at hsl
    exact (Option.some.inj hsl).symm
  have hraw' : rawFa inp x = joinLF (l0 :: recBody Ls) := by
    unfold rawFa extent
    rw [hxb, hx, List.length_map, take_split_recBody _ _ _ hlines]
  rw [hraw'] at hraw
  have hno : ∀ l ∈ l0 :: recBody Ls, LF ∉ l := by
    intro l hl
    apply lines_noLF (inp.drop s)
    rw [hlines]
    obtain ⟨tl, htl⟩ := recBody_prefix Ls
    rw [htl]
    simp only [List.mem_cons, List.mem_append] at hl ⊢
    rcases hl with hl | hl
    · exact Or.inl hl
    · exact Or.inr (Or.inl hl)
  have hl0 := hh GT (by simp [GT, LF]) hgt
  have hemp := joinLF_getLast_LF _ hno hraw
  cases hB : recBody Ls with
  | nil =>
    rw [hB] at hemp
    simp only [List.getLast?_singleton, Option.some.injEq] at hemp
    rw [hemp] at hl0
    simp at hl0
  | cons b B =>
    rw [hB, List.getLast?_cons_cons] at hemp
    apply hlast
    rw [hx, hB, List.getLast?_map, hemp]
    rfl

/-! ## `write_unchanged` after `next()` -/

/-- what M's `write_unchanged` emits for S's record `x` of `inp`: the record's extent (header line
and sequence lines with their own line endings, without the terminator of the last line), followed
by LF *unless the extent already ends with LF* – which happens exactly when the record's last line
is an empty line (`>a⏎⏎`): then the blank line's LF is taken for the record's terminator -/
def faEmit (inp : List UInt8) (x : FaRec) : List UInt8 := endLF (rawFa inp x)

/-- **C11, FASTA, M level.** After a `next()` call (from any state satisfying `InvR`) that returns
a record, the reader shows S's next record `x`, and `write_unchanged` of that record succeeds and
writes `faEmit inp x`.  If the last sequence line of `x` is not empty (in particular if `x` has no
sequence line at all), that is `rawFa inp x ++ [LF]`. -/
theorem fasta_unchanged_bytes (inp : List UInt8) (fuel : Nat) (r : Reader) (x : FaRec)
    (rest : List FaRec) (hg : InvR inp r ((x :: rest).map toObs))
    (hfuel : r.br.src.inp.length < fuel) (hok : (next fuel r).2 = .ok true) :
    InvR inp (next fuel r).1 (rest.map toObs) ∧ (next fuel r).1.byte = x.byte ∧
    writeUnchanged (next fuel r).1.br.buf (next fuel r).1.bp = some (faEmit inp x) ∧
    (x.seqLines.getLast? ≠ some [] →
      writeUnchanged (next fuel r).1.br.buf (next fuel r).1.bp = some (rawFa inp x ++ [LF])) := by
  rw [hg.win.b.inp_eq] at hfuel
  obtain ⟨r', res, new, hn, _, _, hcase, -⟩ := next_step hg hfuel
  obtain ⟨s, hat⟩ := Raw.next_recAt hg hfuel hok
  rw [hn] at hok hat ⊢
  simp only at hok hat ⊢
  subst hok
  rcases hcase with hgood | href
  · obtain ⟨_, _, hobs, hinv⟩ := hgood
    simp only [List.map_cons, List.headD_cons, List.tail_cons] at hobs hinv
    obtain ⟨hxb, hlen, hlf⟩ := recAt_spec hat hobs
    obtain ⟨_, hwu⟩ := recAt_writeUnchanged hat
    have he : extent inp s r'.bp.seqPos.length = rawFa inp x := by
      unfold rawFa
      rw [hxb, hlen]
    rw [he] at hwu
    refine ⟨hinv, by rw [hat.byte, hxb], hwu, ?_⟩
    intro hlast
    rw [hwu]
    simp only [endLF, if_neg (hlf hlast)]
  · cases href.1

/-! ### the whole stream -/

/-- `k` times: `next()`, then `write_unchanged` of the record if one was returned; the output is
collected.  `none` = a `write_unchanged` panicked, or a `next()` call reported an error, panicked or
ran out of fuel. -/
def runWrites : Nat → Reader → Option (List UInt8)
  | 0, _ => some []
  | k + 1, r =>
    let x := next (opFuel r.br.src.inp.length r.br.src.script.length) r
    match x.2 with
    | .ok true =>
      match writeUnchanged x.1.br.buf x.1.bp, runWrites k x.1 with
      | some a, some b => some (a ++ b)
      | _, _ => none
    | .ok false => runWrites k x.1
    | _ => none

theorem observe_eq_none {r : Reader} {res : Res Bool} (hobs : observe r res = .none) :
    res = .ok false := by
  rcases res with (_ | _) | _ | _ | _
  · rfl
  · simp only [observe] at hobs
    split at hobs <;> cases hobs
  all_goals cases hobs

theorem runWrites_spec (inp : List UInt8) (k : Nat) :
    ∀ (r : Reader) (recs : List FaRec), InvR inp r (recs.map toObs) → PolGrows r.pol →
      runWrites k r = some ((recs.take k).flatMap (faEmit inp)) ∧
      ((∀ x ∈ recs, x.seqLines.getLast? ≠ some []) →
        runWrites k r = some ((recs.take k).flatMap (faOut inp))) := by
  induction k with
  | zero => intro r recs _ _; simp [runWrites]
  | succ k ih =>
    intro r recs hg hpol
    have hinp : r.br.src.inp = inp := hg.win.b.inp_eq
    have hfuel : r.br.src.inp.length < opFuel r.br.src.inp.length r.br.src.script.length :=
      opFuel_gt _ _
    obtain ⟨r', res, new, hn, hgr, _, hcase, -⟩ :=
      next_step (fuel := opFuel r.br.src.inp.length r.br.src.script.length) hg
        (by rw [← hinp]; exact hfuel)
    rcases hcase with hgood | href
    · have hpol' : PolGrows r'.pol := polGrows_congr hgr.polf hpol
      cases recs with
      | nil =>
        have hres : res = .ok false := observe_eq_none hgood.obs
        subst hres
        have hinv : InvR inp r' (([] : List FaRec).map toObs) := hgood.inv
        have hrun : runWrites (k + 1) r = runWrites k r' := by
          simp only [runWrites, hn]
        rw [hrun]
        have := ih r' [] hinv hpol'
        simpa only [List.take_nil] using this
      | cons x rest =>
        have hres : res = .ok true := (observe_record (r := r') hgood.obs).1
        subst hres
        have hok : (next (opFuel r.br.src.inp.length r.br.src.script.length) r).2 = .ok true := by
          rw [hn]
        obtain ⟨hinv, _, hwu, hwu'⟩ := fasta_unchanged_bytes inp _ r x rest hg hfuel hok
        rw [hn] at hinv hwu hwu'
        simp only at hinv hwu hwu'
        obtain ⟨ih1, ih2⟩ := ih r' rest hinv hpol'
        have hrun : runWrites (k + 1) r =
            match writeUnchanged r'.br.buf r'.bp, runWrites k r' with
            | some a, some b => some (a ++ b)
            | _, _ => none := by
          simp only [runWrites, hn]
        refine ⟨?_, ?_⟩
        · rw [hrun, hwu, ih1]
          simp only [List.take_succ_cons, List.flatMap_cons]
        · intro hall
          rw [hrun, hwu' (hall x (by simp)), ih2 (fun y hy => hall y (by simp [hy]))]
          simp only [List.take_succ_cons, List.flatMap_cons, faOut]
    · exact absurd hpol href.not_grows

/-- **C11, FASTA, M level, the whole stream.** `next()` / `write_unchanged` in a loop writes
`faEmit` of S's records in order, for every input that S accepts, capacity ≥ 3, growing policy, read
script without failing events and chunk limit. -/
theorem fasta_write_unchanged_stream (inp : List UInt8) (rs : List FaRec)
    (hrs : Spec.fasta inp = .records rs) (cap : Nat) (hcap : 3 ≤ cap) (pol : Pol)
    (hpol : PolGrows pol) (script : List ReadEv) (hs : NoFail script) (chunk : Nat) (k : Nat) :
    runWrites k (mkReader inp cap pol script chunk) = some ((rs.take k).flatMap (faEmit inp)) ∧
    ((∀ x ∈ rs, x.seqLines.getLast? ≠ some []) →
      runWrites k (mkReader inp cap pol script chunk) = some ((rs.take k).flatMap (faOut inp))) := by
  have hinv := invR_mkReader inp cap hcap pol hpol.wfPos script hs chunk
  have hobs : specObs inp = rs.map toObs := by
    unfold specObs
    rw [hrs]
    rfl
  rw [hobs] at hinv
  exact runWrites_spec inp k _ rs hinv hpol

/-- **C11, FASTA, end to end.** Reading a well-formed file (any mixture of LF and CRLF line ends,
with or without the terminator of the last line) with the FASTA machine at any capacity ≥ 3, growing
policy, failure-free read script and chunking, and writing every record unchanged reproduces the file
byte for byte, with an LF added if the last line had no terminator. -/
theorem fasta_write_unchanged_file (recs : List (List UInt8 × List (List UInt8)))
    (hok : Recode.FaOk recs) (terms : Nat → Recode.Term) (final : Bool) (cap : Nat) (hcap : 3 ≤ cap)
    (pol : Pol) (hpol : PolGrows pol) (script : List ReadEv) (hs : NoFail script) (chunk : Nat)
    (k : Nat) (hk : recs.length ≤ k) :
    runWrites k (mkReader (Recode.encodeFasta recs terms final) cap pol script chunk) =
      some (Recode.encodeFasta recs terms final ++ (if final || recs.isEmpty then [] else [LF])) := by
  obtain ⟨rs, h1, h2⟩ := fasta_unchanged_concat recs hok terms final
  obtain ⟨rs', h1', h3⟩ := Recode.fasta_recode_content recs hok terms final
  rw [h1] at h1'
  cases h1'
  have hlen : rs.length = recs.length := by
    have := congrArg List.length h3
    rw [List.length_map] at this
    exact this
  have hne : ∀ x ∈ rs, x.seqLines.getLast? ≠ some [] := by
    intro x hx hl
    have hmem : (x.head, x.seqLines) ∈ recs := by
      rw [← h3]
      exact List.mem_map_of_mem (f := fun r : FaRec => (r.head, r.seqLines)) hx
    exact ((hok _ hmem).2 [] (List.mem_of_getLast? hl)).2 rfl
  rw [(fasta_write_unchanged_stream _ rs h1 cap hcap pol hpol script hs chunk k).2 hne,
    List.take_of_length_le (by omega), h2]

/-! ## the corner: a record whose last line is empty

`rawFa inp x ++ [LF]` is **not** what M emits in general.  In `>a⏎⏎>b⏎` the first record of S has
one (empty) sequence line; its extent is `>a⏎`, which already ends with LF, so `write_unchanged`
adds nothing: M emits `>a⏎`, not `>a⏎⏎`, and the blank line is lost from the copy. -/

/-- `>a⏎⏎>b⏎`: S's records, the extent of the first one, and what M's `write_unchanged` emits for it
after the first `next()` (capacity 64, `StdPolicy`) -/
example :
    let inp : List UInt8 := [62, 97, 10, 10, 62, 98, 10]
    let x0 : FaRec := { byte := 0, line := 1, head := [97], seqLines := [[]] }
    let x1 : FaRec := { byte := 4, line := 3, head := [98], seqLines := [] }
    let y := next 100 (mkReader inp 64 PolDesc.std.toPol)
    Spec.fasta inp = .records [x0, x1] ∧
    rawFa inp x0 = [62, 97, 10] ∧
    y.2 = .ok true ∧
    writeUnchanged y.1.br.buf y.1.bp = some [62, 97, 10] ∧
    faEmit inp x0 = [62, 97, 10] ∧
    rawFa inp x0 ++ [LF] = [62, 97, 10, 10] := by decide +kernel

/-- the whole loop on `>a⏎⏎>b⏎` writes `>a⏎>b⏎`: the blank line is dropped (also with capacity 3) -/
example :
    runWrites 3 (mkReader [62, 97, 10, 10, 62, 98, 10] 64 PolDesc.std.toPol) =
      some [62, 97, 10, 62, 98, 10] ∧
    runWrites 3 (mkReader [62, 97, 10, 10, 62, 98, 10] 3 PolDesc.std.toPol [] 2) =
      some [62, 97, 10, 62, 98, 10] := by decide +kernel

/-- a blank line at the end of the input, `>a⏎AC⏎⏎`: S's record has the lines `AC` and the empty
line, its extent is `>a⏎AC⏎`, and M emits just that -/
example :
    let inp : List UInt8 := [62, 97, 10, 65, 67, 10, 10]
    let x0 : FaRec := { byte := 0, line := 1, head := [97], seqLines := [[65, 67], []] }
    Spec.fasta inp = .records [x0] ∧
    rawFa inp x0 = [62, 97, 10, 65, 67, 10] ∧
    runWrites 2 (mkReader inp 64 PolDesc.std.toPol) = some [62, 97, 10, 65, 67, 10] := by decide +kernel

/-- the hypothesis "the last sequence line is not empty" of `fasta_unchanged_bytes` is sufficient, not necessary:
in `>a⏎␍⏎>b` the last line of the first record is a lone CR, which S trims to the empty line, but the
extent `>a⏎␍` does not end with LF and M emits `>a⏎␍⏎` = `rawFa ++ [LF]`.  A record without
sequence lines at the end of the input (`>b`) gets its LF as well. -/
example :
    let inp : List UInt8 := [62, 97, 10, 13, 10, 62, 98]
    let x0 : FaRec := { byte := 0, line := 1, head := [97], seqLines := [[]] }
    let x1 : FaRec := { byte := 5, line := 3, head := [98], seqLines := [] }
    Spec.fasta inp = .records [x0, x1] ∧
    rawFa inp x0 = [62, 97, 10, 13] ∧ rawFa inp x1 = [62, 98] ∧
    runWrites 3 (mkReader inp 64 PolDesc.std.toPol) = some [62, 97, 10, 13, 10, 62, 98, 10] := by
  decide +kernel

/-! ## the hypotheses of `fasta_write_unchanged_file` are satisfiable -/

/-- two records, `a` with the lines `AC`, `G` and `b c` with the line `T` -/
def exRecs : List (List UInt8 × List (List UInt8)) :=
  [([97], [[65, 67], [71]]), ([98, 32, 99], [[84]])]

/-- lines alternately ended by CRLF and LF -/
def exTerms (i : Nat) : Recode.Term := if i % 2 = 0 then .crlf else .lf

theorem exRecs_ok : Recode.FaOk exRecs := by
  intro p hp
  simp only [exRecs, List.mem_cons, List.not_mem_nil, or_false] at hp
  rcases hp with rfl | rfl <;> decide

/-- `>a␍⏎AC⏎G␍⏎>b c⏎T` (no final terminator) -/
example : Recode.encodeFasta exRecs exTerms false =
    [62, 97, 13, 10, 65, 67, 10, 71, 13, 10, 62, 98, 32, 99, 10, 84] := by decide +kernel

/-- capacity 3, `StdPolicy`, a script that first hands out 3 bytes, is interrupted, then hands out 1
byte, then at most 2 bytes per call: all hypotheses hold, and the theorem gives the copy -/
example :
    runWrites 2 (mkReader (Recode.encodeFasta exRecs exTerms false) 3 PolDesc.std.toPol
        [.data 3, .intr, .data 1] 2) =
      some (Recode.encodeFasta exRecs exTerms false ++ [LF]) :=
  fasta_write_unchanged_file exRecs exRecs_ok exTerms false 3 (Nat.le_refl 3) PolDesc.std.toPol
    polGrows_std [.data 3, .intr, .data 1]
    (noFail_append (noFail_append (noFail_data 3) noFail_intr) (noFail_data 1)) 2 2 (Nat.le_refl 2)

/-- the same instance, evaluated -/
example :
    runWrites 2 (mkReader [62, 97, 13, 10, 65, 67, 10, 71, 13, 10, 62, 98, 32, 99, 10, 84] 3
        PolDesc.std.toPol [.data 3, .intr, .data 1] 2) =
      some [62, 97, 13, 10, 65, 67, 10, 71, 13, 10, 62, 98, 32, 99, 10, 84, 10] := by decide +kernel

/-- `fasta_unchanged_bytes` on the same input: the initial state satisfies the invariant with S's two records -/
example :
    let inp : List UInt8 := [62, 97, 13, 10, 65, 67, 10, 71, 13, 10, 62, 98, 32, 99, 10, 84]
    let x0 : FaRec := { byte := 0, line := 1, head := [97], seqLines := [[65, 67], [71]] }
    let x1 : FaRec := { byte := 10, line := 4, head := [98, 32, 99], seqLines := [[84]] }
    InvR inp (mkReader inp 3 PolDesc.std.toPol [.data 3, .intr, .data 1] 2) ([x0, x1].map toObs) ∧
    rawFa inp x0 = [62, 97, 13, 10, 65, 67, 10, 71, 13] ∧
    rawFa inp x1 = [62, 98, 32, 99, 10, 84] := by
  intro inp x0 x1
  refine ⟨?_, by decide +kernel, by decide +kernel⟩
  have h := invR_mkReader inp 3 (Nat.le_refl 3) PolDesc.std.toPol polGrows_std.wfPos
    [.data 3, .intr, .data 1]
    (noFail_append (noFail_append (noFail_data 3) noFail_intr) (noFail_data 1)) 2
  have e : specObs inp = [x0, x1].map toObs := by decide +kernel
  rw [e] at h
  exact h

end SeqIo.Fasta.Unch
