import SeqIoModel.Proofs.ParallelStep
/-!
# Invariants, deadlock freedom and completeness of the `read_parallel_init` thread protocol

All list-valued state is measured by weighted counts (`cnt`), so that each transition (`Tr`,
`Proofs/ParallelStep.lean`) changes the invariant clauses by linear arithmetic (`omega`).  The
helper functions on program counters have one `@[simp]` lemma per constructor and are never
unfolded to a `match`.  Every clause is proved on its own from the clauses it depends on
(`tr_cases`); for the counted quantities one lemma says how a transition changes them
(`tr_held`, `tr_bCount`, `tr_kBound`).
-/

namespace SeqIo.Par

set_option linter.unusedSimpArgs false
set_option linter.unusedVariables false

/-! ## Counting helpers -/

def cnt {α : Type} (f : α → Nat) : List α → Nat
  | [] => 0
  | a :: l => f a + cnt f l

@[simp] theorem cnt_nil {α : Type} (f : α → Nat) : cnt f [] = 0 := rfl
@[simp] theorem cnt_cons {α : Type} (f : α → Nat) (a : α) (l : List α) :
    cnt f (a :: l) = f a + cnt f l := rfl
@[simp] theorem cnt_append {α : Type} (f : α → Nat) (l₁ l₂ : List α) :
    cnt f (l₁ ++ l₂) = cnt f l₁ + cnt f l₂ := by
  induction l₁ with
  | nil => simp
  | cons a l ih => simp [ih]; omega

def isN (d x : Nat) : Nat := if x = d then 1 else 0

theorem isN_le (d x : Nat) : isN d x ≤ 1 := by unfold isN; split <;> omega
@[simp] theorem isN_self (d : Nat) : isN d d = 1 := by simp [isN]
theorem isN_ne {d x : Nat} (h : x ≠ d) : isN d x = 0 := by simp [isN, h]

def Msg.isRes : Msg → Nat
  | .res _ _ => 1
  | .err => 0
  | .fin => 0
@[simp] theorem Msg.isRes_res (d' b' : Nat) : Msg.isRes (Msg.res d' b') = 1 := rfl
@[simp] theorem Msg.isRes_err : Msg.isRes (Msg.err) = 0 := rfl
@[simp] theorem Msg.isRes_fin : Msg.isRes (Msg.fin) = 0 := rfl

def Msg.isErr : Msg → Nat
  | .res _ _ => 0
  | .err => 1
  | .fin => 0
@[simp] theorem Msg.isErr_res (d' b' : Nat) : Msg.isErr (Msg.res d' b') = 0 := rfl
@[simp] theorem Msg.isErr_err : Msg.isErr (Msg.err) = 1 := rfl
@[simp] theorem Msg.isErr_fin : Msg.isErr (Msg.fin) = 0 := rfl

def Msg.isFin : Msg → Nat
  | .res _ _ => 0
  | .err => 0
  | .fin => 1
@[simp] theorem Msg.isFin_res (d' b' : Nat) : Msg.isFin (Msg.res d' b') = 0 := rfl
@[simp] theorem Msg.isFin_err : Msg.isFin (Msg.err) = 0 := rfl
@[simp] theorem Msg.isFin_fin : Msg.isFin (Msg.fin) = 1 := rfl

def Msg.hasDs (d : Nat) : Msg → Nat
  | .res d' _ => isN d d'
  | .err => 0
  | .fin => 0
@[simp] theorem Msg.hasDs_res (d : Nat) (d' b' : Nat) : Msg.hasDs d (Msg.res d' b') = isN d d' := rfl
@[simp] theorem Msg.hasDs_err (d : Nat) : Msg.hasDs d (Msg.err) = 0 := rfl
@[simp] theorem Msg.hasDs_fin (d : Nat) : Msg.hasDs d (Msg.fin) = 0 := rfl

def Msg.hasB (b : Nat) : Msg → Nat
  | .res _ b' => isN b b'
  | .err => 0
  | .fin => 0
@[simp] theorem Msg.hasB_res (b : Nat) (d' b' : Nat) : Msg.hasB b (Msg.res d' b') = isN b b' := rfl
@[simp] theorem Msg.hasB_err (b : Nat) : Msg.hasB b (Msg.err) = 0 := rfl
@[simp] theorem Msg.hasB_fin (b : Nat) : Msg.hasB b (Msg.fin) = 0 := rfl

def fstIs (d : Nat) (j : Nat × Nat) : Nat := isN d j.1
def sndIs (b : Nat) (j : Nat × Nat) : Nat := isN b j.2
@[simp] theorem fstIs_mk (d x y : Nat) : fstIs d (x, y) = isN d x := rfl
@[simp] theorem sndIs_mk (b x y : Nat) : sndIs b (x, y) = isN b y := rfl

def RPc.n : RPc → Nat
  | .start => 0
  | .recvEmpty => 0
  | .fill _ => 1
  | .sendErr => 0
  | .joinAll _ => 0
  | .sendFin => 0
  | .exited => 0
@[simp] theorem RPc.n_start : RPc.n (RPc.start) = 0 := rfl
@[simp] theorem RPc.n_recvEmpty : RPc.n (RPc.recvEmpty) = 0 := rfl
@[simp] theorem RPc.n_fill (d' : Nat) : RPc.n (RPc.fill d') = 1 := rfl
@[simp] theorem RPc.n_sendErr : RPc.n (RPc.sendErr) = 0 := rfl
@[simp] theorem RPc.n_joinAll (b' : Bool) : RPc.n (RPc.joinAll b') = 0 := rfl
@[simp] theorem RPc.n_sendFin : RPc.n (RPc.sendFin) = 0 := rfl
@[simp] theorem RPc.n_exited : RPc.n (RPc.exited) = 0 := rfl

def RPc.hasDs (d : Nat) : RPc → Nat
  | .start => 0
  | .recvEmpty => 0
  | .fill d' => isN d d'
  | .sendErr => 0
  | .joinAll _ => 0
  | .sendFin => 0
  | .exited => 0
@[simp] theorem RPc.hasDs_start (d : Nat) : RPc.hasDs d (RPc.start) = 0 := rfl
@[simp] theorem RPc.hasDs_recvEmpty (d : Nat) : RPc.hasDs d (RPc.recvEmpty) = 0 := rfl
@[simp] theorem RPc.hasDs_fill (d : Nat) (d' : Nat) : RPc.hasDs d (RPc.fill d') = isN d d' := rfl
@[simp] theorem RPc.hasDs_sendErr (d : Nat) : RPc.hasDs d (RPc.sendErr) = 0 := rfl
@[simp] theorem RPc.hasDs_joinAll (d : Nat) (b' : Bool) : RPc.hasDs d (RPc.joinAll b') = 0 := rfl
@[simp] theorem RPc.hasDs_sendFin (d : Nat) : RPc.hasDs d (RPc.sendFin) = 0 := rfl
@[simp] theorem RPc.hasDs_exited (d : Nat) : RPc.hasDs d (RPc.exited) = 0 := rfl

/-- the reader has not yet seen the end of the input or a closed channel -/
def RPc.inLoop : RPc → Bool
  | .start => true
  | .recvEmpty => true
  | .fill _ => true
  | .sendErr => false
  | .joinAll _ => false
  | .sendFin => false
  | .exited => false
@[simp] theorem RPc.inLoop_start : RPc.inLoop (RPc.start) = true := rfl
@[simp] theorem RPc.inLoop_recvEmpty : RPc.inLoop (RPc.recvEmpty) = true := rfl
@[simp] theorem RPc.inLoop_fill (d' : Nat) : RPc.inLoop (RPc.fill d') = true := rfl
@[simp] theorem RPc.inLoop_sendErr : RPc.inLoop (RPc.sendErr) = false := rfl
@[simp] theorem RPc.inLoop_joinAll (b' : Bool) : RPc.inLoop (RPc.joinAll b') = false := rfl
@[simp] theorem RPc.inLoop_sendFin : RPc.inLoop (RPc.sendFin) = false := rfl
@[simp] theorem RPc.inLoop_exited : RPc.inLoop (RPc.exited) = false := rfl

/-- the reader has not yet sent (or skipped) the error marker -/
def RPc.preErr : RPc → Bool
  | .start => true
  | .recvEmpty => true
  | .fill _ => true
  | .sendErr => true
  | .joinAll _ => false
  | .sendFin => false
  | .exited => false
@[simp] theorem RPc.preErr_start : RPc.preErr (RPc.start) = true := rfl
@[simp] theorem RPc.preErr_recvEmpty : RPc.preErr (RPc.recvEmpty) = true := rfl
@[simp] theorem RPc.preErr_fill (d' : Nat) : RPc.preErr (RPc.fill d') = true := rfl
@[simp] theorem RPc.preErr_sendErr : RPc.preErr (RPc.sendErr) = true := rfl
@[simp] theorem RPc.preErr_joinAll (b' : Bool) : RPc.preErr (RPc.joinAll b') = false := rfl
@[simp] theorem RPc.preErr_sendFin : RPc.preErr (RPc.sendFin) = false := rfl
@[simp] theorem RPc.preErr_exited : RPc.preErr (RPc.exited) = false := rfl

def MPc.n : MPc → Nat
  | .init _ => 0
  | .recvDone => 0
  | .recycle _ => 1
  | .dropping => 0
  | .joining => 0
  | .returned => 0
@[simp] theorem MPc.n_init (i' : Nat) : MPc.n (MPc.init i') = 0 := rfl
@[simp] theorem MPc.n_recvDone : MPc.n (MPc.recvDone) = 0 := rfl
@[simp] theorem MPc.n_recycle (d' : Nat) : MPc.n (MPc.recycle d') = 1 := rfl
@[simp] theorem MPc.n_dropping : MPc.n (MPc.dropping) = 0 := rfl
@[simp] theorem MPc.n_joining : MPc.n (MPc.joining) = 0 := rfl
@[simp] theorem MPc.n_returned : MPc.n (MPc.returned) = 0 := rfl

def MPc.hasDs (d : Nat) : MPc → Nat
  | .init _ => 0
  | .recvDone => 0
  | .recycle d' => isN d d'
  | .dropping => 0
  | .joining => 0
  | .returned => 0
@[simp] theorem MPc.hasDs_init (d : Nat) (i' : Nat) : MPc.hasDs d (MPc.init i') = 0 := rfl
@[simp] theorem MPc.hasDs_recvDone (d : Nat) : MPc.hasDs d (MPc.recvDone) = 0 := rfl
@[simp] theorem MPc.hasDs_recycle (d : Nat) (d' : Nat) : MPc.hasDs d (MPc.recycle d') = isN d d' := rfl
@[simp] theorem MPc.hasDs_dropping (d : Nat) : MPc.hasDs d (MPc.dropping) = 0 := rfl
@[simp] theorem MPc.hasDs_joining (d : Nat) : MPc.hasDs d (MPc.joining) = 0 := rfl
@[simp] theorem MPc.hasDs_returned (d : Nat) : MPc.hasDs d (MPc.returned) = 0 := rfl

def MPc.isInit : MPc → Bool
  | .init _ => true
  | .recvDone => false
  | .recycle _ => false
  | .dropping => false
  | .joining => false
  | .returned => false
@[simp] theorem MPc.isInit_init (i' : Nat) : MPc.isInit (MPc.init i') = true := rfl
@[simp] theorem MPc.isInit_recvDone : MPc.isInit (MPc.recvDone) = false := rfl
@[simp] theorem MPc.isInit_recycle (d' : Nat) : MPc.isInit (MPc.recycle d') = false := rfl
@[simp] theorem MPc.isInit_dropping : MPc.isInit (MPc.dropping) = false := rfl
@[simp] theorem MPc.isInit_joining : MPc.isInit (MPc.joining) = false := rfl
@[simp] theorem MPc.isInit_returned : MPc.isInit (MPc.returned) = false := rfl

/-- the consumer closure is running -/
def MPc.inLoop : MPc → Bool
  | .init _ => false
  | .recvDone => true
  | .recycle _ => true
  | .dropping => false
  | .joining => false
  | .returned => false
@[simp] theorem MPc.inLoop_init (i' : Nat) : MPc.inLoop (MPc.init i') = false := rfl
@[simp] theorem MPc.inLoop_recvDone : MPc.inLoop (MPc.recvDone) = true := rfl
@[simp] theorem MPc.inLoop_recycle (d' : Nat) : MPc.inLoop (MPc.recycle d') = true := rfl
@[simp] theorem MPc.inLoop_dropping : MPc.inLoop (MPc.dropping) = false := rfl
@[simp] theorem MPc.inLoop_joining : MPc.inLoop (MPc.joining) = false := rfl
@[simp] theorem MPc.inLoop_returned : MPc.inLoop (MPc.returned) = false := rfl

/-- the main thread has dropped its channel ends -/
def MPc.gone : MPc → Bool
  | .init _ => false
  | .recvDone => false
  | .recycle _ => false
  | .dropping => false
  | .joining => true
  | .returned => true
@[simp] theorem MPc.gone_init (i' : Nat) : MPc.gone (MPc.init i') = false := rfl
@[simp] theorem MPc.gone_recvDone : MPc.gone (MPc.recvDone) = false := rfl
@[simp] theorem MPc.gone_recycle (d' : Nat) : MPc.gone (MPc.recycle d') = false := rfl
@[simp] theorem MPc.gone_dropping : MPc.gone (MPc.dropping) = false := rfl
@[simp] theorem MPc.gone_joining : MPc.gone (MPc.joining) = true := rfl
@[simp] theorem MPc.gone_returned : MPc.gone (MPc.returned) = true := rfl

def optN : Option Nat → Nat
  | some _ => 1
  | none => 0
@[simp] theorem optN_some (x : Nat) : optN (some x) = 1 := rfl
@[simp] theorem optN_none : optN none = 0 := rfl
def optHas (d : Nat) : Option Nat → Nat
  | some d' => isN d d'
  | none => 0
@[simp] theorem optHas_some (d x : Nat) : optHas d (some x) = isN d x := rfl
@[simp] theorem optHas_none (d : Nat) : optHas d none = 0 := rfl

theorem optN_of_isSome {o : Option Nat} (h : o.isSome = true) : optN o = 1 := by
  cases o <;> simp_all

/-! ## Group A: control -/

/- `a1` while main creates the data sets for slot `i`: `i ≤ Q`, at most `i` `dataset_init` calls so far (exactly `i`
   while the reader lives), the consumer holds nothing yet;  `a2` while the consumer closure runs it holds a data
   set, all `Q + 1` have been created (if the reader lives) and no `dataset_init` failed;  `a3`/`a3'` `consumerAlive`
   is false exactly once main has dropped its channel ends;  `a4` main returns only after the reader thread ended;
   `a5` at most `Q + 1` `dataset_init` calls;  `a6` at most `T` jobs are with the workers;  `a7` before the reader
   starts the pool is idle, nothing is filled and the done channel is empty;  `a7'` after `join_all` the pool is
   idle;  `a8` at most `N` fills;  `a9` `got` counts the delivered results;  `a10` the reader skips the end marker
   only when the consumer is gone;  `a11`/`a12` the error flags are raised only by the configured failures, and a
   configured `reader_init` failure has either not run yet or is recorded. -/
structure InvA (c : Cfg) (s : St) : Prop where
  a1 : ∀ i, s.mn = .init i → i ≤ c.Q ∧ s.dsCalls ≤ i ∧ (s.rd ≠ .exited → s.dsCalls = i) ∧
        s.cur = none ∧ s.got = 0 ∧ s.mainErr = false
  a2 : s.mn.inLoop = true → s.cur.isSome = true ∧ (s.rd ≠ .exited → s.dsCalls = c.Q + 1) ∧
        s.mainErr = false
  a3 : s.mn.gone = false → s.consumerAlive = true
  a3' : s.mn.gone = true → s.consumerAlive = false
  a4 : s.mn = .returned → s.rd = .exited
  a5 : s.dsCalls ≤ c.Q + 1
  a6 : s.working.length + s.sending.length ≤ c.T
  a7 : s.rd = .start → s.jobs = [] ∧ s.working = [] ∧ s.sending = [] ∧ s.filled = 0 ∧ s.doneCh = []
  a7' : s.rd = .sendFin ∨ s.rd = .exited → s.jobs = [] ∧ s.working = [] ∧ s.sending = []
  a8 : s.filled ≤ c.N
  a9 : s.got = s.delivered.length
  a10 : s.rd = .joinAll false → s.consumerAlive = false
  a11 : s.mainErr = true → c.dsInitFailAt.isSome = true
  a12 : c.readerInitFails = true → s.rd = .start ∨ s.readerErr = true

theorem invA_init (c : Cfg) : InvA c init := by
  constructor <;> simp [init]

/-- `tr_case` proves one clause of an invariant for one transition.  A clause that reads no field the
transition writes is the hypothesis itself; the others end in linear arithmetic after `simp_all`.
The context should hold only the clauses this one depends on. -/
local macro "tr_case" : tactic => `(tactic| first | assumption | (intros <;> (try simp_all) <;> omega))

local macro "tr_cases " h:ident : tactic => `(tactic| cases $h:ident <;> tr_case)

/-- The same for clauses with several premises: there `simp_all` alone drops hypotheses, so
everything is normalised by `simp at *` first. -/
local macro "tr_case_norm" : tactic =>
  `(tactic| first | assumption | (intros <;> (try simp at *) <;> (try simp_all) <;> omega))

theorem InvA.calls_le {c : Cfg} {s : St} (hA : InvA c s) {i : Nat} (hi : s.mn = .init i) :
    s.dsCalls ≤ c.Q :=
  Nat.le_trans (hA.a1 i hi).2.1 (hA.a1 i hi).1

theorem tr_alive {c : Cfg} {s s' : St} (h : Tr c s s') : s'.rd ≠ .exited → s.rd ≠ .exited := by
  cases h <;> simp [*]

/- `a1` and `a2` read the reader's state only to ask whether it is alive.  They are proved with `s.rd` in place of
   `s'.rd`, which is stronger (`tr_alive`) and which no transition of the reader or of a worker touches. -/
theorem invA_step {c : Cfg} {s s' : St} (hA : InvA c s) (h : Tr c s s') : InvA c s' := by
  constructor
  · have a1 := hA.a1
    suffices ∀ i, s'.mn = .init i → i ≤ c.Q ∧ s'.dsCalls ≤ i ∧ (s.rd ≠ .exited → s'.dsCalls = i) ∧
        s'.cur = none ∧ s'.got = 0 ∧ s'.mainErr = false from
      fun i hi => let ⟨h1, h2, h3, h4⟩ := this i hi; ⟨h1, h2, fun hr => h3 (tr_alive h hr), h4⟩
    cases h
    case mInitSend i hm _ _ _ _ | mInitBreak i hm _ _ _ => have := a1 i hm; clear a1; tr_case_norm
    all_goals first | assumption | simp
  · have a2 := hA.a2
    suffices s'.mn.inLoop = true → s'.cur.isSome = true ∧ (s.rd ≠ .exited → s'.dsCalls = c.Q + 1) ∧
        s'.mainErr = false from
      fun hi => let ⟨h1, h2, h3⟩ := this hi; ⟨h1, fun hr => h2 (tr_alive h hr), h3⟩
    cases h
    case mInitCurGo i hm _ _ _ => have a1 := hA.a1 i hm; simp_all; omega
    all_goals tr_case
  · have a3 := hA.a3; tr_cases h
  · have a3' := hA.a3'; tr_cases h
  · have a4 := hA.a4; tr_cases h
  · have a1 := @hA.calls_le; have a5 := hA.a5; tr_cases h
  · have a6 := hA.a6; tr_cases h
  · have a7 := hA.a7; tr_cases h
  · have a7' := hA.a7'
    cases h
    case rStartFail hr _ => have a7 := hA.a7 hr; simp_all
    all_goals tr_case
  · have a8 := hA.a8; tr_cases h
  · have a9 := hA.a9; tr_cases h
  · have a10 := hA.a10; tr_cases h
  · have a11 := hA.a11; tr_cases h
  · have a12 := hA.a12; tr_cases h

/-! ## Conservation of data sets

Groups B and C count the same thing with two weights: all data sets (`total`, weight 1) and one
data set `d` (`dsCount`, weight `isN d`).  `held w` is the count for an arbitrary weight; one case
analysis of the transitions (`tr_held`) says how it moves. -/

@[simp] def Msg.wt (w : Nat → Nat) : Msg → Nat
  | .res d _ => w d
  | _ => 0

@[simp] def RPc.wt (w : Nat → Nat) : RPc → Nat
  | .fill d => w d
  | _ => 0

@[simp] def MPc.wt (w : Nat → Nat) : MPc → Nat
  | .recycle d => w d
  | _ => 0

@[simp] def optWt (w : Nat → Nat) : Option Nat → Nat
  | some d => w d
  | none => 0

def held (w : Nat → Nat) (s : St) : Nat :=
  cnt w s.emptyCh + s.rd.wt w + cnt (fun j => w j.1) s.jobs + cnt (fun j => w j.1) s.working +
    cnt (fun j => w j.1) s.sending + cnt (Msg.wt w) s.doneCh + optWt w s.cur + s.mn.wt w

theorem cnt_congr {α : Type} {f g : α → Nat} (h : ∀ a, f a = g a) (l : List α) : cnt f l = cnt g l := by
  rw [funext h]

theorem cnt_one {α : Type} (l : List α) : cnt (fun _ => 1) l = l.length := by
  induction l with
  | nil => rfl
  | cons a l ih => simp [ih]; omega

/-- The guard of `b2` and `c3` (nothing can have been dropped yet), once false, stays false. -/
theorem tr_open {c : Cfg} {s s' : St} (h : Tr c s s') :
    s'.rd.inLoop = true → s'.consumerAlive = true → s'.mainErr = false →
      s.rd.inLoop = true ∧ s.consumerAlive = true ∧ s.mainErr = false := by
  cases h <;> simp +contextual [*]

/-- A transition creates at most one data set (`dsCalls`), and then it is the one numbered
`s.dsCalls`; nothing else enters the system, and while the guard holds nothing leaves it. -/
theorem tr_held {c : Cfg} {s s' : St} (w : Nat → Nat) (hA : InvA c s) (h : Tr c s s') :
    s.dsCalls ≤ s'.dsCalls ∧ s'.dsCalls ≤ s.dsCalls + 1 ∧
    held w s' ≤ held w s + (s'.dsCalls - s.dsCalls) * w s.dsCalls ∧
    (held w s' = held w s + (s'.dsCalls - s.dsCalls) * w s.dsCalls ∨
      s'.rd.inLoop = false ∨ s'.consumerAlive = false ∨ s'.mainErr = true) := by
  cases h
  case mRecvRes d b rest hm hd =>
    obtain ⟨p, hp⟩ := Option.isSome_iff_exists.mp (hA.a2 (by simp [hm])).1
    simp [held, *]; omega
  case mInitCurStop i hm _ _ _ | mInitCurGo i hm _ _ _ =>
    have := (hA.a1 i hm).2.2.2.1; simp [held, *]
  all_goals simp [held, *] <;> omega

/-! ## Group B: numbers of data sets -/

def total (s : St) : Nat :=
  s.emptyCh.length + s.rd.n + s.jobs.length + s.working.length + s.sending.length +
    cnt Msg.isRes s.doneCh + optN s.cur + s.mn.n

def kBound (c : Cfg) (s : St) : Nat := if s.mn.isInit then s.dsCalls else s.got + c.Q

structure InvB (c : Cfg) (s : St) : Prop where
  b1 : total s ≤ s.dsCalls
  b2 : s.rd.inLoop = true → s.consumerAlive = true → s.mainErr = false → total s = s.dsCalls
  b3 : s.doneCh.length ≤ c.Q
  b3' : s.emptyCh.length ≤ c.Q
  b4 : s.filled + s.emptyCh.length + s.rd.n + s.mn.n ≤ kBound c s

theorem invB_init (c : Cfg) : InvB c init := by
  constructor <;> simp [init, total, kBound]

theorem total_eq_held (s : St) : total s = held (fun _ => 1) s := by
  have h1 : s.rd.n = s.rd.wt (fun _ => 1) := by cases s.rd <;> rfl
  have h2 : cnt Msg.isRes s.doneCh = cnt (Msg.wt fun _ => 1) s.doneCh :=
    cnt_congr (fun m => by cases m <;> rfl) _
  have h3 : optN s.cur = optWt (fun _ => 1) s.cur := by cases s.cur <;> rfl
  have h4 : s.mn.n = s.mn.wt (fun _ => 1) := by cases s.mn <;> rfl
  simp only [total, held, cnt_one, h1, h2, h3, h4]

/-- the slack of `b4` does not shrink -/
theorem tr_kBound {c : Cfg} {s s' : St} (hA : InvA c s) (h : Tr c s s') :
    s'.filled + s'.emptyCh.length + s'.rd.n + s'.mn.n + kBound c s ≤
      s.filled + s.emptyCh.length + s.rd.n + s.mn.n + kBound c s' := by
  cases h
  case mInitFail i hm _ | mInitCurStop i hm _ _ _ | mInitCurGo i hm _ _ _ =>
    have := hA.calls_le hm; simp [kBound, *]; omega
  all_goals simp [kBound, *] <;> omega

theorem invB_step {c : Cfg} {s s' : St} (hA : InvA c s) (hB : InvB c s) (h : Tr c s s') :
    InvB c s' := by
  have key := tr_held (fun _ => 1) hA h
  simp only [← total_eq_held] at key
  constructor
  · have b1 := hB.b1; omega
  · intro h1 h2 h3
    obtain ⟨g1, g2, g3⟩ := tr_open h h1 h2 h3
    have := hB.b2 g1 g2 g3
    simp [h1, h2, h3] at key
    omega
  · have b3 := hB.b3; clear key; tr_cases h
  · have b3' := hB.b3'; clear key; tr_cases h
  · have b4 := hB.b4; have := tr_kBound hA h; omega

/-! ## Group C: conservation of data sets -/

def dsCount (s : St) (d : Nat) : Nat :=
  cnt (isN d) s.emptyCh + s.rd.hasDs d + cnt (fstIs d) s.jobs + cnt (fstIs d) s.working +
    cnt (fstIs d) s.sending + cnt (Msg.hasDs d) s.doneCh + optHas d s.cur + s.mn.hasDs d

/-- Every data set is in at most one place, only created data sets are anywhere, and while
nothing can have been dropped every created data set is in exactly one place. -/
structure InvC (c : Cfg) (s : St) : Prop where
  c1 : ∀ d, dsCount s d ≤ 1
  c2 : ∀ d, s.dsCalls ≤ d → dsCount s d = 0
  c3 : ∀ d, d < s.dsCalls → s.rd.inLoop = true → s.consumerAlive = true → s.mainErr = false →
        dsCount s d = 1

theorem invC_init (c : Cfg) : InvC c init := by
  constructor <;> simp [init, dsCount]

theorem isN_cases (d x : Nat) : isN d x = 1 ∧ x = d ∨ isN d x = 0 ∧ x ≠ d := by
  by_cases h : x = d
  · left; simp [h]
  · right; exact ⟨isN_ne h, h⟩

theorem dsCount_eq_held (s : St) (d : Nat) : dsCount s d = held (isN d) s := by
  have h1 : s.rd.hasDs d = s.rd.wt (isN d) := by cases s.rd <;> rfl
  have h2 : cnt (Msg.hasDs d) s.doneCh = cnt (Msg.wt (isN d)) s.doneCh :=
    cnt_congr (fun m => by cases m <;> rfl) _
  have h3 : optHas d s.cur = optWt (isN d) s.cur := by cases s.cur <;> rfl
  have h4 : s.mn.hasDs d = s.mn.wt (isN d) := by cases s.mn <;> rfl
  have h5 : fstIs d = fun j => isN d j.1 := rfl
  simp only [dsCount, held, h1, h2, h3, h4, h5]

theorem invC_step {c : Cfg} {s s' : St} (hA : InvA c s) (hC : InvC c s) (h : Tr c s s') :
    InvC c s' := by
  have key := fun d => tr_held (isN d) hA h
  simp only [← dsCount_eq_held] at key
  refine ⟨fun d => ?_, fun d hd => ?_, fun d hd h1 h2 h3 => ?_⟩ <;>
    have e := isN_cases d s.dsCalls <;> have c1 := hC.c1 d <;> have c2 := hC.c2 d <;>
    obtain ⟨k1, k2, k3, k4⟩ := key d
  · rcases e with ⟨e1, e2⟩ | ⟨e1, e2⟩ <;> simp only [e1] at k3 <;> omega
  · rcases e with ⟨e1, e2⟩ | ⟨e1, e2⟩ <;> simp only [e1] at k3 <;> omega
  · obtain ⟨g1, g2, g3⟩ := tr_open h h1 h2 h3
    have c3 := fun hlt => hC.c3 d hlt g1 g2 g3
    simp [h1, h2, h3] at k4
    rcases e with ⟨e1, e2⟩ | ⟨e1, e2⟩ <;> simp only [e1] at k4 <;> omega

/-! ## Group D: batches -/

def bCount (s : St) (b : Nat) : Nat :=
  cnt (sndIs b) s.jobs + cnt (sndIs b) s.working + cnt (sndIs b) s.sending +
    cnt (Msg.hasB b) s.doneCh + cnt (sndIs b) s.delivered

/-- Every batch is in at most one place (in flight or delivered), and only batches that were read. -/
structure InvD (c : Cfg) (s : St) : Prop where
  d1 : ∀ b, bCount s b ≤ 1
  d2 : ∀ b, s.filled ≤ b → bCount s b = 0

theorem invD_init (c : Cfg) : InvD c init := by
  constructor <;> simp [init, bCount]

/-- Batches are conserved like data sets: the only one that enters is the one read by a fill, numbered
`s.filled`. -/
theorem tr_bCount {c : Cfg} {s s' : St} (b : Nat) (h : Tr c s s') :
    s.filled ≤ s'.filled ∧ s'.filled ≤ s.filled + 1 ∧
      bCount s' b ≤ bCount s b + (s'.filled - s.filled) * isN b s.filled := by
  cases h <;> simp [bCount, sndIs, *] <;> omega

theorem invD_step {c : Cfg} {s s' : St} (hD : InvD c s) (h : Tr c s s') : InvD c s' := by
  refine ⟨fun b => ?_, fun b hb => ?_⟩ <;>
    have e := isN_cases b s.filled <;> have d1 := hD.d1 b <;> have d2 := hD.d2 b <;>
    obtain ⟨k1, k2, k3⟩ := tr_bCount b h <;>
    rcases e with ⟨e1, e2⟩ | ⟨e1, e2⟩ <;> simp only [e1] at k3 <;> omega

/-! ## Group E: the error marker -/

def errTot (s : St) : Nat := s.errsSeen + cnt Msg.isErr s.doneCh

structure InvE (c : Cfg) (s : St) : Prop where
  e1 : s.rd.preErr = true → errTot s = 0
  e2 : errTot s ≤ 1
  e3 : c.endErr = false → errTot s = 0
  e4 : s.rd = .sendErr → c.endErr = true

theorem invE_init (c : Cfg) : InvE c init := by
  constructor <;> simp [init, errTot]

attribute [local simp] errTot in
theorem invE_step {c : Cfg} {s s' : St} (hE : InvE c s) (h : Tr c s s') : InvE c s' := by
  constructor
  · have e1 := hE.e1; tr_cases h
  · have e1 := hE.e1; have e2 := hE.e2; tr_cases h
  · have e3 := hE.e3; have e4 := hE.e4; tr_cases h
  · have e4 := hE.e4; tr_cases h

/-! ## Group F: order of the results with one worker -/

def resBs : List Msg → List Nat
  | [] => []
  | .res _ b :: l => b :: resBs l
  | .err :: l => resBs l
  | .fin :: l => resBs l

@[simp] theorem resBs_nil : resBs [] = [] := rfl
@[simp] theorem resBs_res (d b : Nat) (l : List Msg) : resBs (.res d b :: l) = b :: resBs l := rfl
@[simp] theorem resBs_err (l : List Msg) : resBs (.err :: l) = resBs l := rfl
@[simp] theorem resBs_fin (l : List Msg) : resBs (.fin :: l) = resBs l := rfl
@[simp] theorem resBs_append (l₁ l₂ : List Msg) : resBs (l₁ ++ l₂) = resBs l₁ ++ resBs l₂ := by
  induction l₁ with
  | nil => simp
  | cons m l ih => cases m <;> simp [ih]

/-- all batches in the order in which they will reach the consumer (one worker) -/
def order (s : St) : List Nat :=
  s.delivered.map (·.2) ++ resBs s.doneCh ++ s.sending.map (·.2) ++ s.working.map (·.2) ++
    s.jobs.map (·.2)

theorem split_len_le_one {α : Type} {l pre post : List α} {j : α} (h : l = pre ++ j :: post)
    (hl : l.length ≤ 1) : pre = [] ∧ post = [] := by
  subst h
  simp at hl
  exact ⟨List.eq_nil_of_length_eq_zero (by omega), List.eq_nil_of_length_eq_zero (by omega)⟩

theorem range_split {l₁ l₂ : List Nat} {b n : Nat} (h : l₁ ++ b :: l₂ = List.range n) :
    b = l₁.length := by
  have h1 : (l₁ ++ b :: l₂)[l₁.length]? = some b := by simp
  rw [h] at h1
  have h2 := List.getElem?_eq_some_iff.mp h1
  obtain ⟨hlt, h3⟩ := h2
  simp at h3
  exact h3.symm

structure InvF (c : Cfg) (s : St) : Prop where
  f1 : c.T = 1 → s.consumerAlive = true → order s = List.range s.filled
  f2 : c.T = 1 → s.delivered.map (·.2) = List.range s.got

theorem invF_init (c : Cfg) : InvF c init := by
  constructor <;> simp [init, order]

theorem invF_step {c : Cfg} {s s' : St} (hA : InvA c s) (hF : InvF c s) (h : Tr c s s') :
    InvF c s' := by
  by_cases hT1 : c.T = 1
  case neg => exact ⟨fun h => absurd h hT1, fun h => absurd h hT1⟩
  have f1 := hF.f1 hT1
  have f2 := hF.f2 hT1
  have a3 := hA.a3
  have a3' := hA.a3'
  have a6 := hA.a6
  have a9 := hA.a9
  rw [hT1] at a6
  clear hF hA
  suffices hs : (s'.consumerAlive = true → order s' = List.range s'.filled) ∧
      s'.delivered.map (·.2) = List.range s'.got from ⟨fun _ => hs.1, fun _ => hs.2⟩
  cases h
  case rFill d h1 h2 =>
    refine ⟨fun hca => ?_, f2⟩
    have := f1 hca
    simp [order, List.range_succ] at this ⊢
    rw [← this]; simp
  case wTake j rest h1 h2 =>
    have hw : s.working = [] := List.eq_nil_of_length_eq_zero (by omega)
    have hs : s.sending = [] := List.eq_nil_of_length_eq_zero (by omega)
    exact ⟨fun hca => by simpa [order, hw, hs, h1] using f1 hca, f2⟩
  case wFinish pre j post h1 =>
    have hs : s.sending = [] := List.eq_nil_of_length_eq_zero (by simp [h1] at a6; omega)
    obtain ⟨hp, hq⟩ := split_len_le_one h1 (by omega)
    exact ⟨fun hca => by simpa [order, hs, h1, hp, hq] using f1 hca, f2⟩
  case wSend pre j post h1 h2 h3 =>
    have hw : s.working = [] := List.eq_nil_of_length_eq_zero (by simp [h1] at a6; omega)
    obtain ⟨hp, hq⟩ := split_len_le_one h1 (by omega)
    exact ⟨fun hca => by simpa [order, hw, h1, hp, hq] using f1 hca, f2⟩
  case mRecvRes d b rest h1 h2 =>
    have hca : s.consumerAlive = true := a3 (by simp [h1])
    have := f1 hca
    simp [order, h2] at this
    have hb : b = s.got := by
      have := range_split this
      simp at this; omega
    refine ⟨fun _ => ?_, ?_⟩
    · simp [order]; exact this
    · simp [List.range_succ, f2, hb]
  all_goals clear a3 a3' a6 a9; first | exact ⟨f1, f2⟩ | exact ⟨fun hca => by simp_all [order], f2⟩

/-! ## Group G: a consumer that drains the channel gets everything -/

/-- the reader has seen the end of the input (or a closed channel) -/
def RPc.late : RPc → Bool
  | .start => false
  | .recvEmpty => false
  | .fill _ => false
  | .sendErr => true
  | .joinAll _ => true
  | .sendFin => true
  | .exited => true
@[simp] theorem RPc.late_start : RPc.late (RPc.start) = false := rfl
@[simp] theorem RPc.late_recvEmpty : RPc.late (RPc.recvEmpty) = false := rfl
@[simp] theorem RPc.late_fill (d' : Nat) : RPc.late (RPc.fill d') = false := rfl
@[simp] theorem RPc.late_sendErr : RPc.late (RPc.sendErr) = true := rfl
@[simp] theorem RPc.late_joinAll (b' : Bool) : RPc.late (RPc.joinAll b') = true := rfl
@[simp] theorem RPc.late_sendFin : RPc.late (RPc.sendFin) = true := rfl
@[simp] theorem RPc.late_exited : RPc.late (RPc.exited) = true := rfl

/-- the reader is past the point where it sends the error marker -/
def RPc.later : RPc → Bool
  | .start => false
  | .recvEmpty => false
  | .fill _ => false
  | .sendErr => false
  | .joinAll _ => true
  | .sendFin => true
  | .exited => true
@[simp] theorem RPc.later_start : RPc.later (RPc.start) = false := rfl
@[simp] theorem RPc.later_recvEmpty : RPc.later (RPc.recvEmpty) = false := rfl
@[simp] theorem RPc.later_fill (d' : Nat) : RPc.later (RPc.fill d') = false := rfl
@[simp] theorem RPc.later_sendErr : RPc.later (RPc.sendErr) = false := rfl
@[simp] theorem RPc.later_joinAll (b' : Bool) : RPc.later (RPc.joinAll b') = true := rfl
@[simp] theorem RPc.later_sendFin : RPc.later (RPc.sendFin) = true := rfl
@[simp] theorem RPc.later_exited : RPc.later (RPc.exited) = true := rfl

/-- the consumer closure has not yet finished -/
def MPc.early : MPc → Bool
  | .init _ => true
  | .recvDone => true
  | .recycle _ => true
  | .dropping => false
  | .joining => false
  | .returned => false
@[simp] theorem MPc.early_init (i' : Nat) : MPc.early (MPc.init i') = true := rfl
@[simp] theorem MPc.early_recvDone : MPc.early (MPc.recvDone) = true := rfl
@[simp] theorem MPc.early_recycle (d' : Nat) : MPc.early (MPc.recycle d') = true := rfl
@[simp] theorem MPc.early_dropping : MPc.early (MPc.dropping) = false := rfl
@[simp] theorem MPc.early_joining : MPc.early (MPc.joining) = false := rfl
@[simp] theorem MPc.early_returned : MPc.early (MPc.returned) = false := rfl

/-- the consumer drains the channel and nothing fails during initialisation -/
def Drains (c : Cfg) : Prop :=
  c.stopAfter = none ∧ c.readerInitFails = false ∧ c.dsInitFailAt = none ∧
    (c.endErr = false ∨ c.contAfterErr = true)

def tailAfterFin : List Msg → Nat
  | [] => 0
  | .fin :: l => l.length
  | .res _ _ :: l => tailAfterFin l
  | .err :: l => tailAfterFin l

@[simp] theorem tailAfterFin_nil : tailAfterFin [] = 0 := rfl
@[simp] theorem tailAfterFin_fin (l : List Msg) : tailAfterFin (.fin :: l) = l.length := rfl
@[simp] theorem tailAfterFin_res (d b : Nat) (l : List Msg) :
    tailAfterFin (.res d b :: l) = tailAfterFin l := rfl
@[simp] theorem tailAfterFin_err (l : List Msg) : tailAfterFin (.err :: l) = tailAfterFin l := rfl

theorem tailAfterFin_push (l : List Msg) (m : Msg) (h : cnt Msg.isFin l = 0) :
    tailAfterFin (l ++ [m]) = 0 := by
  induction l with
  | nil => cases m <;> simp
  | cons x l ih => cases x <;> simp_all

/- `g1` while the consumer lives every batch read so far is delivered, in the done channel or in the pool;
   `g2` the reader leaves its loop only after `N` fills;  `g3`/`g3'` nothing follows the end marker in the channel,
   and only an exited reader has sent it;  `g4` once the reader has exited the end marker is in the channel until it
   is seen;  `g5` past the point where the reader reports its error the error marker exists exactly once (seen or in
   the channel);  `g6`/`g7` the end marker is unseen while the closure runs, and when the closure has finished it got
   all `N` results, the end marker and (if the reader failed) the error once. -/
structure InvG (c : Cfg) (s : St) : Prop where
  g1 : s.consumerAlive = true →
        s.got + cnt Msg.isRes s.doneCh + s.jobs.length + s.working.length + s.sending.length = s.filled
  g2 : s.consumerAlive = true → s.rd.late = true → s.filled = c.N
  g3 : tailAfterFin s.doneCh = 0
  g3' : s.rd ≠ .exited → cnt Msg.isFin s.doneCh = 0
  g4 : s.consumerAlive = true → s.rd = .exited → s.finSeen = false → 0 < cnt Msg.isFin s.doneCh
  g5 : s.consumerAlive = true → s.rd.later = true → c.endErr = true → errTot s = 1
  g6 : s.mn.early = true → s.finSeen = false
  g7 : s.mn.early = false → s.got = c.N ∧ s.finSeen = true ∧ (c.endErr = true → s.errsSeen = 1)

theorem invG_init (c : Cfg) : InvG c init := by
  constructor <;> simp [init, errTot]

attribute [local simp] errTot tailAfterFin_push in
theorem invG_step {c : Cfg} {s s' : St} (hD : Drains c) (hA : InvA c s) (hE : InvE c s)
    (hG : InvG c s) (h : Tr c s s') : InvG c s' := by
  have hr := hD.2.1
  constructor
  · have g1 := hG.g1; cases h <;> tr_case_norm
  · have a8 := hA.a8; have g2 := hG.g2; tr_cases h
  · have a7' := hA.a7'; have g3 := hG.g3; have g3' := hG.g3'; cases h <;> tr_case_norm
  · have g3' := hG.g3'; tr_cases h
  · have g4 := hG.g4
    cases h
    case rJoinExit hr _ _ _ => have a10 := hA.a10 hr; simp_all
    all_goals tr_case
  · have g5 := hG.g5
    cases h
    case rSendErr hr _ _ => have e1 := hE.e1 (by simp [hr]); simp_all
    all_goals tr_case_norm
  · have g6 := hG.g6; tr_cases h
  · -- the closure ends at the end marker or at a closed channel; every other way is ruled out by `Drains`
    have a3 := hA.a3; have e3 := hE.e3; have g1 := hG.g1; have g2 := hG.g2; have g5 := hG.g5
    have g7 := hG.g7; obtain ⟨hs, _, hd, he⟩ := hD
    cases h
    case mRecvFin => have a7' := hA.a7'; have g3 := hG.g3; have g3' := hG.g3'; simp_all <;> omega
    case mRecvClosed => have g4 := hG.g4; simp_all <;> omega
    all_goals clear a3 g1 g2 g5; tr_case

/-! ## The invariant -/

structure Inv (c : Cfg) (s : St) : Prop where
  ia : InvA c s
  ib : InvB c s
  ic : InvC c s
  id : InvD c s
  ie : InvE c s
  if1 : InvF c s
  ig : Drains c → InvG c s

theorem inv_init (c : Cfg) : Inv c init :=
  ⟨invA_init c, invB_init c, invC_init c, invD_init c, invE_init c, invF_init c, fun _ => invG_init c⟩

theorem inv_tr {c : Cfg} {s s' : St} (hi : Inv c s) (h : Tr c s s') : Inv c s' :=
  ⟨invA_step hi.ia h, invB_step hi.ia hi.ib h, invC_step hi.ia hi.ic h, invD_step hi.id h,
    invE_step hi.ie h, invF_step hi.ia hi.if1 h, fun hD => invG_step hD hi.ia hi.ie (hi.ig hD) h⟩

theorem inv_step (c : Cfg) (s s' : St) (t : Tid) (hT : 0 < c.T) (hQ : 0 < c.Q) (hi : Inv c s)
    (h : step c s t = some s') : Inv c s' :=
  inv_tr hi (step_tr h)

theorem inv_reach' {c : Cfg} {s : St} (h : Reach c s) : Inv c s := by
  induction h with
  | init => exact inv_init c
  | step _ hs ih => exact inv_tr ih (step_tr hs)

theorem inv_reach (c : Cfg) (s : St) (hT : 0 < c.T) (hQ : 0 < c.Q) (h : Reach c s) : Inv c s :=
  inv_reach' h

theorem reach_runSched {c : Cfg} {s s' : St} {ts : List Tid} (hr : Reach c s)
    (h : runSched c s ts = some s') : Reach c s' := by
  induction ts generalizing s with
  | nil => simp [runSched] at h; subst h; exact hr
  | cons t ts ih =>
    simp only [runSched] at h
    split at h
    · rename_i s1 hs1
      exact ih (Reach.step hr hs1) h
    · simp at h

/-! ## Corollaries -/

/-- C16: at most Q+1 data sets are ever created -/
theorem created_le (c : Cfg) (s : St) (hT : 0 < c.T) (hQ : 0 < c.Q) (h : Reach c s) :
    s.dsCalls ≤ c.Q + 1 :=
  (inv_reach' h).ia.a5

/-- C16: the reader is never more than Q batches ahead of the consumer -/
theorem runahead_le (c : Cfg) (s : St) (hT : 0 < c.T) (hQ : 0 < c.Q) (h : Reach c s) :
    s.filled ≤ s.got + c.Q := by
  have hi := inv_reach' h
  have b4 := hi.ib.b4
  have a1 := @hi.ia.calls_le
  unfold kBound at b4
  cases hm : s.mn <;> simp_all <;> omega

/-- C16: data sets are conserved: every data set is in at most one place (channel, reader, pool,
consumer), and only created data sets are anywhere -/
theorem ds_conserved (c : Cfg) (s : St) (hT : 0 < c.T) (hQ : 0 < c.Q) (h : Reach c s) (d : Nat) :
    dsCount s d ≤ 1 ∧ (s.dsCalls ≤ d → dsCount s d = 0) :=
  ⟨(inv_reach' h).ic.c1 d, (inv_reach' h).ic.c2 d⟩

theorem cnt_sndIs_eq_count (b : Nat) (l : List (Nat × Nat)) :
    cnt (sndIs b) l = (l.map (·.2)).count b := by
  induction l with
  | nil => simp
  | cons x l ih =>
    simp [ih, sndIs, isN, List.count_cons]
    split <;> omega

theorem cnt_pos_of_mem (b : Nat) (l : List (Nat × Nat)) (h : b ∈ l.map (·.2)) :
    0 < cnt (sndIs b) l := by
  rw [cnt_sndIs_eq_count]; exact List.count_pos_iff.mpr h

/-- C07: no batch is delivered twice, and only batches that were read -/
theorem delivered_nodup (c : Cfg) (s : St) (hT : 0 < c.T) (hQ : 0 < c.Q) (h : Reach c s) :
    (s.delivered.map (·.2)).Nodup ∧ ∀ b ∈ s.delivered.map (·.2), b < s.filled := by
  have hd := (inv_reach' h).id
  constructor
  · rw [List.nodup_iff_count]
    intro b
    have := hd.d1 b
    unfold bCount at this
    rw [← cnt_sndIs_eq_count]; omega
  · intro b hb
    have h2 := hd.d2 b
    have := cnt_pos_of_mem b _ hb
    unfold bCount at h2
    rcases Nat.lt_or_ge b s.filled with h3 | h3
    · exact h3
    · have := h2 h3; omega

theorem got_eq_delivered (c : Cfg) (s : St) (hT : 0 < c.T) (hQ : 0 < c.Q) (h : Reach c s) :
    s.got = s.delivered.length :=
  (inv_reach' h).ia.a9

/-- C15: the error is seen at most once and only if the reader failed -/
theorem error_at_most_once (c : Cfg) (s : St) (hT : 0 < c.T) (hQ : 0 < c.Q) (h : Reach c s) :
    s.errsSeen ≤ 1 ∧ (s.errsSeen = 1 → c.endErr = true) := by
  have he := (inv_reach' h).ie
  have e2 := he.e2
  have e3 := he.e3
  unfold errTot at e2 e3
  constructor
  · omega
  · intro h1
    cases hc : c.endErr
    · have := e3 hc; omega
    · rfl

/-- C07: with one worker thread results arrive in file order -/
theorem in_order_T1 (c : Cfg) (s : St) (hT : 0 < c.T) (hQ : 0 < c.Q) (h : Reach c s)
    (h1 : c.T = 1) : s.delivered.map (·.2) = List.range s.got :=
  (inv_reach' h).if1.f2 h1

theorem init_failure_returned (c : Cfg) (s : St) (h : Reach c s) (hf : s.mn = .returned) :
    (c.readerInitFails = true → s.readerErr = true ∨ s.mainErr = true) ∧
      (s.mainErr = true → c.dsInitFailAt.isSome) := by
  have ha := (inv_reach' h).ia
  refine ⟨fun hr => ?_, ha.a11⟩
  have h4 := ha.a4 hf
  rcases ha.a12 hr with h5 | h5
  · rw [h4] at h5; cases h5
  · exact Or.inl h5

theorem drained_gets_all (c : Cfg) (s : St) (hT : 0 < c.T) (hQ : 0 < c.Q) (h : Reach c s)
    (hf : s.mn = .returned) (h1 : c.stopAfter = none) (h2 : c.readerInitFails = false)
    (h3 : c.dsInitFailAt = none) (h4 : c.endErr = false ∨ c.contAfterErr = true) :
    s.got = c.N ∧ s.finSeen = true ∧ (c.endErr = true → s.errsSeen = 1) := by
  have hg := (inv_reach' h).ig ⟨h1, h2, h3, h4⟩
  exact hg.g7 (by simp [hf])

/-! ## Deadlock freedom -/

theorem enabled_of_isSome {c : Cfg} {s : St} (t : Tid) (h : (step c s t).isSome = true) :
    ∃ t s', step c s t = some s' :=
  ⟨t, Option.isSome_iff_exists.mp h⟩

theorem workers_progress {c : Cfg} {s : St} (hT : 0 < c.T)
    (hd : s.consumerAlive = false ∨ s.doneCh.length < c.Q)
    (hne : ¬(s.jobs = [] ∧ s.working = [] ∧ s.sending = [])) : ∃ t s', step c s t = some s' := by
  cases hs : s.sending with
  | cons j rest =>
    apply enabled_of_isSome (.workerSend 0)
    rcases hd with hd | hd
    · simp [step, hs, hd]
    · cases hca : s.consumerAlive <;> simp [step, hs, hd, hca]
  | nil =>
    cases hw : s.working with
    | cons j rest =>
      apply enabled_of_isSome (.workerFinish 0)
      simp [step, hw]
    | nil =>
      cases hj : s.jobs with
      | cons j rest =>
        apply enabled_of_isSome .workerTake
        simp [step, hj, hw, hs, hT]
      | nil => exact absurd ⟨hj, hw, hs⟩ hne

theorem reader_progress {c : Cfg} {s : St} (hrd : s.rd ≠ .exited)
    (hj : s.jobs = []) (hw : s.working = []) (hs : s.sending = [])
    (hd : s.consumerAlive = false ∨ s.doneCh.length < c.Q)
    (he : s.rd = .recvEmpty → s.emptyCh ≠ [] ∨ s.consumerAlive = false) :
    ∃ t s', step c s t = some s' := by
  apply enabled_of_isSome .reader
  cases hr : s.rd with
  | start => cases hf : c.readerInitFails <;> simp [step, hr, hf]
  | recvEmpty =>
    cases hem : s.emptyCh with
    | cons d rest => simp [step, hr, hem]
    | nil =>
      rcases he hr with h | h
      · exact absurd hem h
      · simp [step, hr, hem, h]
  | fill d =>
    by_cases hf : s.filled < c.N
    · simp [step, hr, hf]
    · cases hee : c.endErr <;> simp [step, hr, hf, hee]
  | sendErr =>
    rcases hd with hd | hd
    · simp [step, hr, hd]
    · cases hca : s.consumerAlive <;> simp [step, hr, hd, hca]
  | joinAll fin => simp [step, hr, hj, hw, hs]
  | sendFin =>
    rcases hd with hd | hd
    · simp [step, hr, hd]
    · cases hca : s.consumerAlive <;> simp [step, hr, hd, hca]
  | exited => exact absurd hr hrd

/-- every reachable state that is not final has an enabled thread -/
theorem progress (c : Cfg) (s : St) (hT : 0 < c.T) (hQ : 0 < c.Q) (h : Reach c s)
    (hnf : s.mn ≠ .returned) : ∃ t s', step c s t = some s' := by
  have hi := inv_reach' h
  have ha := hi.ia
  have hb := hi.ib
  cases hm : s.mn with
  | returned => exact absurd hm hnf
  | dropping => exact enabled_of_isSome .main (by simp [step, hm])
  | init i =>
    apply enabled_of_isSome .main
    obtain ⟨h1, h2, h3, h4, h5, h6⟩ := ha.a1 i hm
    by_cases hf : c.dsInitFailAt = some s.dsCalls
    · simp [step, hm, hf]
    · by_cases hiq : i < c.Q
      · by_cases hra : s.rd = .exited
        · have : readerAlive s = false := (readerAlive_false_iff s).mpr hra
          simp [step, hm, hf, hiq, this]
        · have hral : readerAlive s = true := (readerAlive_true_iff s).mpr hra
          have hb1 := hb.b1
          unfold total at hb1
          have : s.emptyCh.length < c.Q := by have := h3 hra; omega
          simp [step, hm, hf, hiq, hral, this]
      · simp [step, hm, hf, hiq]
  | recycle p =>
    apply enabled_of_isSome .main
    by_cases hra : s.rd = .exited
    · have : readerAlive s = false := (readerAlive_false_iff s).mpr hra
      simp [step, hm, this]
    · have hral : readerAlive s = true := (readerAlive_true_iff s).mpr hra
      have hb1 := hb.b1
      unfold total at hb1
      have hc := optN_of_isSome (ha.a2 (by simp [hm])).1
      have h5 := ha.a5
      have : s.emptyCh.length < c.Q := by simp [hm] at hb1; omega
      simp [step, hm, hral, this]
  | joining =>
    by_cases hra : s.rd = .exited
    · exact enabled_of_isSome .main (by simp [step, hm, hra])
    · have hca : s.consumerAlive = false := ha.a3' (by simp [hm])
      by_cases hne : s.jobs = [] ∧ s.working = [] ∧ s.sending = []
      · exact reader_progress hra hne.1 hne.2.1 hne.2.2 (Or.inl hca) (fun _ => Or.inr hca)
      · exact workers_progress hT (Or.inl hca) hne
  | recvDone =>
    have hca : s.consumerAlive = true := ha.a3 (by simp [hm])
    cases hdc : s.doneCh with
    | cons m rest =>
      apply enabled_of_isSome .main
      cases m <;> simp [step, hm, hdc]
    | nil =>
      have hdl : s.doneCh.length < c.Q := by simp [hdc, hQ]
      by_cases hne : s.jobs = [] ∧ s.working = [] ∧ s.sending = []
      case neg => exact workers_progress hT (Or.inr hdl) hne
      obtain ⟨hj, hw, hs⟩ := hne
      by_cases hra : s.rd = .exited
      · apply enabled_of_isSome .main
        have : doneSenders s = false := (doneSenders_false_iff s).mpr ⟨hra, hj, hw, hs⟩
        simp [step, hm, hdc, this]
      · -- The one place where conservation is needed: main waits on an empty done channel, the pool
        -- is idle and the reader waits for an empty data set.  All Q + 1 data sets exist (`a2`) and
        -- each is somewhere (`b2`), but only the consumer's `cur` holds one: Q + 1 = 1 contradicts 0 < Q.
        refine reader_progress hra hj hw hs (Or.inr hdl) (fun hr => Or.inl ?_)
        intro hem
        obtain ⟨h1, h2, h3⟩ := ha.a2 (by simp [hm])
        have hb2 := hb.b2 (by simp [hr]) hca h3
        have hc := optN_of_isSome h1
        have := h2 hra
        simp [total, hr, hem, hj, hw, hs, hdc, hm, hc] at hb2
        omega

/-- every maximal schedule ends with the main thread having returned -/
theorem always_returns (c : Cfg) (ts : List Tid) (s : St) (hT : 0 < c.T) (hQ : 0 < c.Q)
    (hrun : runSched c init ts = some s) (hmax : ∀ t, step c s t = none) : s.mn = .returned := by
  false_or_by_contra
  rename_i hnf
  obtain ⟨t, s', hs⟩ := progress c s hT hQ (reach_runSched Reach.init hrun) hnf
  rw [hmax t] at hs
  cases hs

/-! ## Further corollaries -/

/-- C16: while nothing can have been dropped (reader in its loop, consumer alive, no failed
`dataset_init`) every created data set is in exactly one place -/
theorem ds_exactly_one (c : Cfg) (s : St) (hT : 0 < c.T) (hQ : 0 < c.Q) (h : Reach c s)
    (hl : s.rd.inLoop = true) (hca : s.consumerAlive = true) (hme : s.mainErr = false)
    (d : Nat) (hd : d < s.dsCalls) : dsCount s d = 1 :=
  (inv_reach' h).ic.c3 d hd hl hca hme

/-- C16: the channels never hold more than `Q` messages and the pool never runs more than `T` jobs -/
theorem channels_bounded (c : Cfg) (s : St) (hT : 0 < c.T) (hQ : 0 < c.Q) (h : Reach c s) :
    s.emptyCh.length ≤ c.Q ∧ s.doneCh.length ≤ c.Q ∧ s.working.length + s.sending.length ≤ c.T :=
  ⟨(inv_reach' h).ib.b3', (inv_reach' h).ib.b3, (inv_reach' h).ia.a6⟩

/-- C07: while the consumer is alive no batch is lost: every batch read so far has been delivered
or is in flight -/
theorem no_batch_lost (c : Cfg) (s : St) (hT : 0 < c.T) (hQ : 0 < c.Q) (h : Reach c s)
    (hD : Drains c) (hca : s.consumerAlive = true) :
    s.got + cnt Msg.isRes s.doneCh + s.jobs.length + s.working.length + s.sending.length = s.filled :=
  ((inv_reach' h).ig hD).g1 hca

/-! ## The per-record output vector -/

theorem recycleZip_length {R D : Type} (work : R → D → D) (initD : D) (out : List D)
    (recs : List R) : recs.length ≤ (recycleZip work initD out recs).length := by
  induction recs generalizing out with
  | nil => simp
  | cons r rs ih =>
    cases out with
    | nil => simp [recycleZip]; exact ih []
    | cons o os => simp [recycleZip]; exact ih os

theorem consumerZip_spec_aux {R D : Type} (work : R → D → D) (initD : D) (out : List D)
    (recs : List R) (k : Nat) :
    consumerZip recs (recycleZip work initD out recs) =
      (recs.zipIdx k).map (fun p => (p.1, work p.1 ((out[p.2 - k]?).getD initD))) := by
  induction recs generalizing out k with
  | nil => simp [consumerZip]
  | cons r rs ih =>
    cases out with
    | nil =>
      simp only [recycleZip, consumerZip, List.zip_cons_cons, List.zipIdx_cons, List.map_cons]
      have := ih [] (k + 1)
      simp only [consumerZip] at this
      rw [this]
      simp
    | cons o os =>
      simp only [recycleZip, consumerZip, List.zip_cons_cons, List.zipIdx_cons, List.map_cons]
      have := ih os (k + 1)
      simp only [consumerZip] at this
      rw [this]
      simp only [Nat.sub_self, List.getElem?_cons_zero, Option.getD_some, List.cons.injEq, true_and]
      apply List.map_congr_left
      intro p hp
      have hk : k + 1 ≤ p.2 := by
        have := List.le_snd_of_mem_zipIdx hp
        exact this
      have : p.2 - k = (p.2 - (k + 1)) + 1 := by omega
      rw [this, List.getElem?_cons_succ]

/-- Whatever the old length of the recycled output vector, the consumer sees record `i` paired
with the output computed for record `i` (from the old value at position `i`, or from `initD`). -/
theorem consumerZip_spec {R D : Type} (work : R → D → D) (initD : D) (out : List D)
    (recs : List R) :
    consumerZip recs (recycleZip work initD out recs) =
      (recs.zipIdx).map (fun p => (p.1, work p.1 ((out[p.2]?).getD initD))) := by
  have := consumerZip_spec_aux work initD out recs 0
  simpa using this

end SeqIo.Par

/-! Axioms used (expected: only `propext`, `Classical.choice`, `Quot.sound`). -/
#print axioms SeqIo.Par.inv_reach
#print axioms SeqIo.Par.progress
#print axioms SeqIo.Par.always_returns
#print axioms SeqIo.Par.drained_gets_all
#print axioms SeqIo.Par.consumerZip_spec
