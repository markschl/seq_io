import SeqIoModel.Model.Parallel
/-!
# The transition relation of the `read_parallel_init` thread protocol

`Tr`: one constructor per rule of `step`, with the successor state written out; `step_tr`: every
step is a transition.  Invariants and the termination measure are proved by cases on `Tr`;
enabledness is always proved about `step` itself, so only this direction is needed.  `Tr` restates
the rules: a change to `step` in `Model/Parallel.lean` is a change to `Tr` and to the case analysis
of `step_tr_*`, which follows the order of the `match`/`if` arms of `step`.
-/

namespace SeqIo.Par

set_option linter.unusedSimpArgs false
set_option linter.unusedVariables false

/-- one constructor per rule of `step`; the successor state is explicit -/
inductive Tr (c : Cfg) (s : St) : St → Prop where
  | rStartFail : s.rd = .start → c.readerInitFails = true →
      Tr c s { s with rd := .exited, readerErr := true }
  | rStartOk : s.rd = .start → c.readerInitFails = false → Tr c s { s with rd := .recvEmpty }
  | rRecv (d : Nat) (rest : List Nat) : s.rd = .recvEmpty → s.emptyCh = d :: rest →
      Tr c s { s with emptyCh := rest, rd := .fill d }
  | rRecvClosed : s.rd = .recvEmpty → s.emptyCh = [] → s.consumerAlive = false →
      Tr c s { s with rd := .joinAll false }
  | rFill (d : Nat) : s.rd = .fill d → s.filled < c.N →
      Tr c s { s with jobs := s.jobs ++ [(d, s.filled)], filled := s.filled + 1, rd := .recvEmpty }
  | rFillErr (d : Nat) : s.rd = .fill d → c.N ≤ s.filled → c.endErr = true →
      Tr c s { s with rd := .sendErr }
  | rFillEnd (d : Nat) : s.rd = .fill d → c.N ≤ s.filled → c.endErr = false →
      Tr c s { s with rd := .joinAll true }
  | rSendErrClosed : s.rd = .sendErr → s.consumerAlive = false → Tr c s { s with rd := .joinAll true }
  | rSendErr : s.rd = .sendErr → s.consumerAlive = true → s.doneCh.length < c.Q →
      Tr c s { s with doneCh := s.doneCh ++ [.err], rd := .joinAll true }
  | rJoinFin : s.rd = .joinAll true → s.jobs = [] → s.working = [] → s.sending = [] →
      Tr c s { s with rd := .sendFin }
  | rJoinExit : s.rd = .joinAll false → s.jobs = [] → s.working = [] → s.sending = [] →
      Tr c s { s with rd := .exited }
  | rSendFinClosed : s.rd = .sendFin → s.consumerAlive = false → Tr c s { s with rd := .exited }
  | rSendFin : s.rd = .sendFin → s.consumerAlive = true → s.doneCh.length < c.Q →
      Tr c s { s with doneCh := s.doneCh ++ [.fin], rd := .exited }
  | wTake (j : Nat × Nat) (rest : List (Nat × Nat)) : s.jobs = j :: rest →
      s.working.length + s.sending.length < c.T →
      Tr c s { s with jobs := rest, working := s.working ++ [j] }
  | wFinish (pre : List (Nat × Nat)) (j : Nat × Nat) (post : List (Nat × Nat)) :
      s.working = pre ++ j :: post →
      Tr c s { s with working := pre ++ post, sending := s.sending ++ [j] }
  | wSendClosed (pre : List (Nat × Nat)) (j : Nat × Nat) (post : List (Nat × Nat)) :
      s.sending = pre ++ j :: post → s.consumerAlive = false →
      Tr c s { s with sending := pre ++ post }
  | wSend (pre : List (Nat × Nat)) (j : Nat × Nat) (post : List (Nat × Nat)) :
      s.sending = pre ++ j :: post → s.consumerAlive = true → s.doneCh.length < c.Q →
      Tr c s { s with sending := pre ++ post, doneCh := s.doneCh ++ [.res j.1 j.2] }
  | mInitFail (i : Nat) : s.mn = .init i → c.dsInitFailAt = some s.dsCalls →
      Tr c s { s with dsCalls := s.dsCalls + 1, mainErr := true, mn := .dropping }
  | mInitSend (i : Nat) : s.mn = .init i → c.dsInitFailAt ≠ some s.dsCalls → i < c.Q →
      s.rd ≠ .exited → s.emptyCh.length < c.Q →
      Tr c s { s with dsCalls := s.dsCalls + 1, emptyCh := s.emptyCh ++ [s.dsCalls], mn := .init (i + 1) }
  | mInitBreak (i : Nat) : s.mn = .init i → c.dsInitFailAt ≠ some s.dsCalls → i < c.Q →
      s.rd = .exited → Tr c s { s with dsCalls := s.dsCalls + 1, mn := .init c.Q }
  | mInitCurStop (i : Nat) : s.mn = .init i → c.dsInitFailAt ≠ some s.dsCalls → c.Q ≤ i →
      c.stopAfter = some 0 →
      Tr c s { s with dsCalls := s.dsCalls + 1, cur := some s.dsCalls, mn := .dropping }
  | mInitCurGo (i : Nat) : s.mn = .init i → c.dsInitFailAt ≠ some s.dsCalls → c.Q ≤ i →
      c.stopAfter ≠ some 0 →
      Tr c s { s with dsCalls := s.dsCalls + 1, cur := some s.dsCalls, mn := .recvDone }
  | mRecvRes (d b : Nat) (rest : List Msg) : s.mn = .recvDone → s.doneCh = .res d b :: rest →
      Tr c s { s with doneCh := rest, cur := some d, got := s.got + 1,
                      delivered := s.delivered ++ [(d, b)], mn := .recycle (s.cur.getD 0) }
  | mRecvErrStop (rest : List Msg) : s.mn = .recvDone → s.doneCh = .err :: rest →
      c.contAfterErr = false →
      Tr c s { s with doneCh := rest, errsSeen := s.errsSeen + 1, mn := .dropping }
  | mRecvErrGo (rest : List Msg) : s.mn = .recvDone → s.doneCh = .err :: rest →
      c.contAfterErr = true →
      Tr c s { s with doneCh := rest, errsSeen := s.errsSeen + 1, mn := .recvDone }
  | mRecvFin (rest : List Msg) : s.mn = .recvDone → s.doneCh = .fin :: rest →
      Tr c s { s with doneCh := rest, finSeen := true, mn := .dropping }
  | mRecvClosed : s.mn = .recvDone → s.doneCh = [] → s.rd = .exited → s.jobs = [] →
      s.working = [] → s.sending = [] → Tr c s { s with mn := .dropping }
  | mRecycleClosedStop (p : Nat) : s.mn = .recycle p → s.rd = .exited → c.stopAfter = some s.got →
      Tr c s { s with mn := .dropping }
  | mRecycleClosedGo (p : Nat) : s.mn = .recycle p → s.rd = .exited → c.stopAfter ≠ some s.got →
      Tr c s { s with mn := .recvDone }
  | mRecycleStop (p : Nat) : s.mn = .recycle p → s.rd ≠ .exited → s.emptyCh.length < c.Q →
      c.stopAfter = some s.got → Tr c s { s with emptyCh := s.emptyCh ++ [p], mn := .dropping }
  | mRecycleGo (p : Nat) : s.mn = .recycle p → s.rd ≠ .exited → s.emptyCh.length < c.Q →
      c.stopAfter ≠ some s.got → Tr c s { s with emptyCh := s.emptyCh ++ [p], mn := .recvDone }
  | mDrop : s.mn = .dropping → Tr c s { s with consumerAlive := false, mn := .joining }
  | mJoin : s.mn = .joining → s.rd = .exited → Tr c s { s with mn := .returned }

theorem readerAlive_eq (s : St) :
    readerAlive s = match s.rd with | .exited => false | _ => true := by
  unfold readerAlive; cases s.rd <;> rfl

theorem readerAlive_true_iff (s : St) : readerAlive s = true ↔ s.rd ≠ .exited := by
  rw [readerAlive_eq]; cases s.rd <;> simp

theorem readerAlive_false_iff (s : St) : readerAlive s = false ↔ s.rd = .exited := by
  rw [readerAlive_eq]; cases s.rd <;> simp

theorem doneSenders_false_iff (s : St) :
    doneSenders s = false ↔ s.rd = .exited ∧ s.jobs = [] ∧ s.working = [] ∧ s.sending = [] := by
  simp [doneSenders, readerAlive_false_iff, and_assoc]

theorem getElem?_split {α} : ∀ (l : List α) (i : Nat) (a : α), l[i]? = some a →
    ∃ pre post, l = pre ++ a :: post ∧ l.eraseIdx i = pre ++ post
  | [], i, a, h => by simp at h
  | x :: l, 0, a, h => by
    simp at h; subst h; exact ⟨[], l, by simp, by simp⟩
  | x :: l, i + 1, a, h => by
    simp at h
    obtain ⟨pre, post, h1, h2⟩ := getElem?_split l i a h
    exact ⟨x :: pre, post, by simp [h1], by simp [h2]⟩

theorem step_tr_reader {c : Cfg} {s s' : St} (h : step c s .reader = some s') : Tr c s s' := by
  unfold step at h
  simp only at h
  split at h
  · split at h <;> (injection h with h; subst h)
    · exact .rStartFail ‹_› (by simp_all)
    · exact .rStartOk ‹_› (by simp_all)
  · split at h
    · injection h with h; subst h; exact .rRecv _ _ ‹_› ‹_›
    · split at h
      · simp at h
      · injection h with h; subst h; exact .rRecvClosed ‹_› ‹_› (by simp_all)
  · split at h
    · injection h with h; subst h; exact .rFill _ ‹_› ‹_›
    · split at h <;> (injection h with h; subst h)
      · exact .rFillErr _ ‹_› (by omega) (by simp_all)
      · exact .rFillEnd _ ‹_› (by omega) (by simp_all)
  · split at h
    · injection h with h; subst h; exact .rSendErrClosed ‹_› (by simp_all)
    · split at h
      · injection h with h; subst h; exact .rSendErr ‹_› (by simp_all) ‹_›
      · simp at h
  · rename_i fin hrd
    split at h
    · injection h with h; subst h
      rename_i hj
      simp at hj
      cases fin
      · simpa using Tr.rJoinExit hrd hj.1.1 hj.1.2 hj.2
      · simpa using Tr.rJoinFin hrd hj.1.1 hj.1.2 hj.2
    · simp at h
  · split at h
    · injection h with h; subst h; exact .rSendFinClosed ‹_› (by simp_all)
    · split at h
      · injection h with h; subst h; exact .rSendFin ‹_› (by simp_all) ‹_›
      · simp at h
  · simp at h

theorem step_tr_worker {c : Cfg} {s s' : St} :
    (step c s .workerTake = some s' → Tr c s s') ∧
    (∀ i, step c s (.workerFinish i) = some s' → Tr c s s') ∧
    (∀ i, step c s (.workerSend i) = some s' → Tr c s s') := by
  refine ⟨?_, ?_, ?_⟩
  · intro h
    unfold step at h
    simp only at h
    split at h
    · split at h
      · injection h with h; subst h; exact .wTake _ _ ‹_› ‹_›
      · simp at h
    · simp at h
  · intro i h
    unfold step at h
    simp only at h
    split at h
    · rename_i j hj
      injection h with h; subst h
      obtain ⟨pre, post, h1, h2⟩ := getElem?_split _ _ _ hj
      rw [h2]; exact .wFinish pre j post h1
    · simp at h
  · intro i h
    unfold step at h
    simp only at h
    split at h
    · rename_i j hj
      obtain ⟨pre, post, h1, h2⟩ := getElem?_split _ _ _ hj
      split at h
      · injection h with h; subst h
        rw [h2]; exact .wSendClosed pre j post h1 (by simp_all)
      · split at h
        · injection h with h; subst h
          rw [h2]; exact .wSend pre j post h1 (by simp_all) ‹_›
        · simp at h
    · simp at h

theorem step_tr_main {c : Cfg} {s s' : St} (h : step c s .main = some s') : Tr c s s' := by
  unfold step at h
  simp only [afterResult] at h
  split at h
  · -- init
    split at h
    · injection h with h; subst h; exact .mInitFail _ ‹_› ‹_›
    · split at h
      · split at h
        · split at h
          · injection h with h; subst h
            exact .mInitSend _ ‹_› ‹_› ‹_› (by rwa [← readerAlive_true_iff]) ‹_›
          · simp at h
        · injection h with h; subst h
          exact .mInitBreak _ ‹_› ‹_› ‹_› (by rw [← readerAlive_false_iff]; simp_all)
      · injection h with h; subst h
        by_cases hs : c.stopAfter = some 0
        · simp only [hs, if_true]; exact .mInitCurStop _ ‹_› ‹_› (by omega) hs
        · simp only [hs, if_false]; exact .mInitCurGo _ ‹_› ‹_› (by omega) hs
  · -- recvDone
    split at h
    · split at h
      · injection h with h; subst h; exact .mRecvRes _ _ _ ‹_› ‹_›
      · injection h with h; subst h
        by_cases hc : c.contAfterErr = true
        · simp only [hc, if_true]; exact .mRecvErrGo _ ‹_› ‹_› hc
        · have hc' : c.contAfterErr = false := by simpa using hc
          simp only [hc', Bool.false_eq_true, if_false]; exact .mRecvErrStop _ ‹_› ‹_› hc'
      · injection h with h; subst h; exact .mRecvFin _ ‹_› ‹_›
    · split at h
      · simp at h
      · injection h with h; subst h
        rename_i hds
        have hds' : doneSenders s = false := by simpa using hds
        rw [doneSenders_false_iff] at hds'
        exact .mRecvClosed ‹_› ‹_› hds'.1 hds'.2.1 hds'.2.2.1 hds'.2.2.2
  · -- recycle
    split at h
    · injection h with h; subst h
      rename_i hra
      have hra' : s.rd = .exited := by rw [← readerAlive_false_iff]; simpa using hra
      by_cases hs : c.stopAfter = some s.got
      · simp only [hs, if_true]; exact .mRecycleClosedStop _ ‹_› hra' hs
      · simp only [hs, if_false]; exact .mRecycleClosedGo _ ‹_› hra' hs
    · rename_i hra
      have hra' : s.rd ≠ .exited := by rw [← readerAlive_true_iff]; simpa using hra
      split at h
      · injection h with h; subst h
        by_cases hs : c.stopAfter = some s.got
        · simp only [hs, if_true]; exact .mRecycleStop _ ‹_› hra' ‹_› hs
        · simp only [hs, if_false]; exact .mRecycleGo _ ‹_› hra' ‹_› hs
      · simp at h
  · injection h with h; subst h; exact .mDrop ‹_›
  · split at h
    · injection h with h; subst h; exact .mJoin ‹_› ‹_›
    · simp at h
  · simp at h

/-- every step of `step` is one of the transitions -/
theorem step_tr {c : Cfg} {s s' : St} {t : Tid} (h : step c s t = some s') : Tr c s s' := by
  cases t with
  | main => exact step_tr_main h
  | reader => exact step_tr_reader h
  | workerTake => exact step_tr_worker.1 h
  | workerFinish i => exact step_tr_worker.2.1 i h
  | workerSend i => exact step_tr_worker.2.2 i h

end SeqIo.Par
