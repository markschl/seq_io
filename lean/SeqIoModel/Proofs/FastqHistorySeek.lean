import SeqIoModel.Proofs.FastqHistorySafe
/-!
# FASTQ histories: seeks, and every history is accepted by the abstract reader A

The items of S from the position of its `i`-th item on are S's items of the rest of the input;
seeking to such a position – inside the buffer or not, from any state – leaves the reader in a
good state for exactly these items (`seek_cases`).  With the steps of `FastqHistory.lean` this gives
`fastq_history_accepted`.
-/

namespace SeqIo.Fastq
open SeqIo SeqIo.Spec SeqIo.FillProofs SeqIo.Fastq.Hist SeqIo.WriteProofs

/-! ## S from an item position on -/

/-- fewer than four terminated lines: at most one item -/
theorem fqGo_nl4_none {t : List UInt8} (h : nl4 t = none) (b l : Nat) :
    (fqGo false (splitLF t) b l).length ≤ 1 := by
  unfold nl4 at h
  rw [← t.drop_zero]
  cases h1 : nl t 0 with
  | none => rw [splitLF_nl_none h1, fqGo_few _ _ (by simp)]; split <;> simp
  | some a =>
    simp only [h1, Option.bind_some] at h
    cases h2 : nl t a with
    | none =>
      rw [splitLF_nl_some' h1, splitLF_nl_none h2, fqGo_few _ _ (by simp)]; split <;> simp
    | some b' =>
      simp only [h2, Option.bind_some] at h
      cases h3 : nl t b' with
      | none =>
        rw [splitLF_nl_some' h1, splitLF_nl_some' h2, splitLF_nl_none h3, fqGo_few _ _ (by simp)]
        split <;> simp
      | some c =>
        simp only [h3, Option.bind_some] at h
        rw [splitLF_nl_some' h1, splitLF_nl_some' h2, splitLF_nl_some' h3, splitLF_nl_none h,
          fqGo_three]
        simp

/-- S's items from its `i`-th item on are S's items of the input from that item's position on -/
theorem fqGo_drop (i : Nat) :
    ∀ (t : List UInt8) (b l : Nat) (it : FqItem),
      (fqGo false (splitLF t) b l)[i]? = some it →
      ∃ d, (itemPos it).2 = b + d ∧ d ≤ t.length ∧
        (fqGo false (splitLF t) b l).drop i =
          fqGo false (splitLF (t.drop d)) (itemPos it).2 (itemPos it).1 := by
  induction i with
  | zero =>
    intro t b l it hi
    cases hl : fqGo false (splitLF t) b l with
    | nil => rw [hl] at hi; cases hi
    | cons x rest =>
      rw [hl] at hi
      simp only [List.getElem?_cons_zero, Option.some.injEq] at hi
      subst hi
      have := fqGo_head_pos hl
      refine ⟨0, by rw [this]; rfl, Nat.zero_le _, ?_⟩
      rw [this, List.drop_zero, List.drop_zero, hl]
  | succ i ih =>
    intro t b l it hi
    cases h4 : nl4 t with
    | none =>
      have := fqGo_nl4_none h4 b l
      have hlt : i + 1 < (fqGo false (splitLF t) b l).length := by
        rcases Nat.lt_or_ge (i + 1) (fqGo false (splitLF t) b l).length with h | h
        · exact h
        · rw [List.getElem?_eq_none_iff.mpr h] at hi; cases hi
      omega
    | some d =>
      obtain ⟨h', s, p, q, hs, hlen, hd⟩ := splitLF_nl4_some h4
      have hne := splitLF_ne_nil (t.drop d)
      rw [hs, fqGo_four false h' s p q _ hne] at hi ⊢
      cases hg : fqGroup false h' s p q b l with
      | err e b' l' =>
        rw [hg] at hi
        simp at hi
      | record x =>
        rw [hg] at hi
        simp only [List.getElem?_cons_succ, List.drop_succ_cons] at hi ⊢
        have hbd : b + h'.length + s.length + p.length + q.length + 4 = b + d := by omega
        rw [hbd] at hi ⊢
        obtain ⟨d', h1, h2, h3⟩ := ih (t.drop d) (b + d) (l + 4) it hi
        refine ⟨d + d', by rw [h1]; omega, ?_, ?_⟩
        · simp only [List.length_drop] at h2; omega
        · rw [h3, List.drop_drop]

/-- … for `Spec.fastq` -/
theorem fastq_drop (inp : List UInt8) (i : Nat) (it : FqItem)
    (hi : (Spec.fastq inp)[i]? = some it) :
    (itemPos it).2 ≤ inp.length ∧
      (Spec.fastq inp).drop i = itemsAt inp (itemPos it).2 (itemPos it).1 := by
  obtain ⟨d, h1, h2, h3⟩ := fqGo_drop i inp 0 1 it hi
  simp only [Nat.zero_add] at h1
  refine ⟨by rw [h1]; exact h2, ?_⟩
  unfold Spec.fastq itemsAt
  rw [h3, h1]

/-! ## `seek` -/

/-- `Good` reads, beside the window, the state, the buffer with its capacity, the cursor, the
offsets and the position counters -/
theorem Good.congr {inp G r r' its} (h : Good inp G r its) (hw : Win inp G r')
    (hst : r'.state = r.state) (hbuf : r'.br.buf = r.br.buf) (hcap : r'.br.cap = r.br.cap)
    (hcur : r'.br.src.cursor = r.br.src.cursor) (hbp : r'.bp = r.bp)
    (hip : r'.incompletePos = r.incompletePos) (hbyte : r'.byte = r.byte)
    (hline : r'.line = r.line) : Good inp G r' its := by
  have base : Base inp G r → Base inp G r' := fun hb => ⟨hw, by rw [hbp, hbuf]; exact hb.pos0_le⟩
  have eof : Eof inp r → Eof inp r' := by
    unfold Eof
    rw [hbuf, hcap, hcur]
    exact id
  unfold Good at h ⊢
  rw [hst]
  generalize r.state = st at h ⊢
  cases st with
  | new =>
    rw [hbuf, hbp, hip, hbyte, hline]
    exact ⟨hw, h.2⟩
  | finished => exact ⟨hw, h.2⟩
  | positioned =>
    unfold IpOk
    rw [hip, hbuf, hbp, hbyte, hline]
    exact ⟨base h.1, eof h.2.1, h.2.2⟩
  | parsing =>
    rw [hip, hbuf, hbp, hbyte, hline]
    exact ⟨base h.1, eof h.2.1, h.2.2⟩

def bumpSeek (r : Reader) (c : Nat) : Reader :=
  { r with br := { r.br with src := { r.br.src with seekCount := c } } }

theorem good_seekCount {inp G r its} (h : Good inp G r its) (c : Nat) :
    Good inp G (bumpSeek r c) its :=
  h.congr ((good_win h).frame rfl rfl (Nat.le_refl _) rfl rfl) rfl rfl rfl rfl rfl rfl rfl rfl

/-- a failed refill leaves a good reader good (for the same items): where the end of the
input matters, nothing can have been added -/
theorem good_fill_fail {inp G r its} (h : Good inp G r its) {br' : BufRd} {ext : List UInt8}
    (hbuf : br'.buf = r.br.buf ++ ext) (hcap : br'.cap = r.br.cap)
    (hcur : br'.src.cursor = r.br.src.cursor + ext.length)
    (hle : ext.length ≤ min (r.br.cap - r.br.buf.length) (inp.length - r.br.src.cursor))
    (hnG : ¬ G) (hw2 : Win inp G { r with br := br' }) :
    Good inp G { r with br := br' } its := by
  have extNil : Eof inp r → Good inp G { r with br := br' } its := by
    intro he
    have hext : ext = [] := by
      apply List.eq_nil_of_length_eq_zero
      by_cases hlt : r.br.buf.length < r.br.cap
      · have := he hlt; omega
      · omega
    subst hext
    exact h.congr hw2 rfl (by rw [hbuf, List.append_nil]) hcap hcur rfl rfl rfl rfl
  cases hst : r.state with
  | new =>
    simp only [Good, hst] at h ⊢
    exact ⟨hw2.set_state _, fun hG => absurd hG hnG, h.2.2⟩
  | finished =>
    simp only [Good, hst] at h ⊢
    exact ⟨hw2.set_state _, h.2⟩
  | positioned =>
    simp only [Good, hst] at h
    rw [← hst]
    exact extNil h.2.1
  | parsing =>
    simp only [Good, hst] at h
    rw [← hst]
    exact extNil h.2.1

/-- seeking to an offset of the input, with the line number that belongs to it: the reader is
positioned there, whatever its state was – or, in a non-ideal environment, the seek or a
refill fails and the reader stays good (for the same items, or finished) -/
theorem seek_cases (inp : List UInt8) (G : Prop) (r : Reader) (its : List FqItem)
    (hg : Good inp G r its) (l b : Nat) (hb : b ≤ inp.length) :
    ((seek r l b).2 = .ok () ∧ Good inp G (seek r l b).1 (itemsAt inp b l) ∧
      (seek r l b).1.line = l ∧ (seek r l b).1.byte = b) ∨
    (¬ G ∧ (∃ k, (seek r l b).2 = .err (.io k)) ∧
      (Good inp G (seek r l b).1 its ∨ Good inp G (seek r l b).1 [])) := by
  have hw := good_win hg
  unfold seek
  simp only
  split
  · -- inside the buffer: a partly filled buffer is completed first
    rename_i hpos
    obtain ⟨hp1, hp2⟩ := hpos
    have htn : ((↑r.bp.pos0 + ((↑b : Int) - ↑r.byte)).toNat : Int) = ↑r.bp.pos0 + (↑b - ↑r.byte) :=
      Int.toNat_of_nonneg hp1
    by_cases hlt : r.br.buf.length < r.br.cap
    · rw [if_pos hlt]
      rcases fill_cases inp G r hw with
        ⟨br', ext, n, hfill, hbuf', hcap', hcur', hext, hw2, he2, hn⟩ |
        ⟨br', ext, k, hfill, hbuf', hcap', hcur', hle, hnG, hw2⟩
      · rw [hfill]
        refine Or.inl ⟨rfl, ?_, rfl, rfl⟩
        refine good_positioned_of ⟨hw2.congr rfl rfl (by simp only; omega), ?_⟩ he2
          (fun ip h => by cases h) rfl rfl
        simp only [hbuf', List.length_append]
        omega
      · rw [hfill]
        exact Or.inr ⟨hnG, ⟨k, rfl⟩, Or.inl (good_fill_fail hg hbuf' hcap' hcur' hle hnG hw2)⟩
    · rw [if_neg hlt]
      refine Or.inl ⟨rfl, ?_, rfl, rfl⟩
      refine good_positioned_of ⟨hw.congr rfl rfl (by simp only; omega), ?_⟩
        (fun h => absurd h hlt) (fun ip h => by cases h) rfl rfl
      simp only
      omega
  · -- a real seek
    rcases bufSeek_eq r.br b with ⟨q, hq, hsk⟩ | ⟨-, hsk⟩
    · rw [hsk]
      simp only
      -- a scripted seek failure: the environment is not ideal
      have hnG : ¬ G := fun hG => by rw [hw.nosf hG] at hq; cases hq
      exact Or.inr ⟨hnG, ⟨q.2, rfl⟩, Or.inl (good_seekCount hg _)⟩
    · rw [hsk]
      simp only
      have hw1 : Win inp G (seekReset r
          { r.br with src := { r.br.src with seekCount := r.br.src.seekCount + 1, cursor := b },
                      buf := [] } l b) := by
        refine ⟨hw.inp_eq, hb, hw.nofail, hw.polwf, hw.polg, hw.cap3, Nat.zero_le _, Nat.zero_le _,
          ?_, ?_, hw.nosf⟩ <;> simp [seekReset]
      rcases fill_cases inp G _ hw1 with
        ⟨br', ext, n, hfill, hbuf', hcap', hcur', hext, hw2, he2, hn⟩ |
        ⟨br', ext, k, hfill, hbuf', hcap', hcur', hle, hnG, hw2⟩
      · have hfill' : fillBuf { r.br with
            src := { r.br.src with seekCount := r.br.src.seekCount + 1, cursor := b }, buf := [] }
            = (br', .ok n) := hfill
        simp only [hfill']
        refine Or.inl ⟨trivial, ?_, trivial, trivial⟩
        exact good_positioned_of ⟨hw2.congr rfl rfl rfl, Nat.zero_le _⟩ he2
          (fun ip h => by cases h) rfl rfl
      · have hfill' : fillBuf { r.br with
            src := { r.br.src with seekCount := r.br.src.seekCount + 1, cursor := b }, buf := [] }
            = (br', .error k) := hfill
        simp only [hfill']
        refine Or.inr ⟨hnG, ⟨k, rfl⟩, Or.inr ?_⟩
        exact Fin.good ⟨rfl, hw2.congr rfl rfl rfl⟩

theorem step_seek (inp : List UInt8) (G : Prop) (hG : G) (m : MSt) (a : AState)
    (hs : Sim inp G (Spec.fastq inp) m a) (i : Nat) :
    ∃ a', acceptSeek (Spec.fastq inp) a i (stepSeek m i).2 = some a' ∧
      Sim inp G (Spec.fastq inp) (stepSeek m i).1 a' := by
  have hinp := good_inp hs.good
  simp only [stepSeek, hinp]
  cases hi : (Spec.fastq inp)[i]? with
  | none =>
    refine ⟨a, ?_, hs⟩
    simp only [acceptSeek]
    rw [if_pos (List.getElem?_eq_none_iff.mp hi)]
  | some it =>
    obtain ⟨hb, hdrop⟩ := fastq_drop inp i it hi
    obtain ⟨h1, h2, h3, h4⟩ | ⟨hnG, -⟩ :=
      seek_cases inp G m.r _ hs.good (itemPos it).1 (itemPos it).2 hb
    rotate_left
    · exact absurd hG hnG
    have hlt : i < (Spec.fastq inp).length := by
      rcases Nat.lt_or_ge i (Spec.fastq inp).length with h | h
      · exact h
      · rw [List.getElem?_eq_none_iff.mpr h] at hi; cases hi
    refine ⟨{ a with k := i, last := .seek i }, ?_, ?_, ?_, ?_⟩
    · simp only [h1, obsSeek, acceptSeek, hlt, if_true]
    · simp only [hdrop]; exact h2
    · intro j
      rw [MSt.getSet_with_r, AState.getSet_with]
      exact hs.sets j
    · unfold LastOk
      simp only
      exact ⟨it, hi, by rw [h3, h4]⟩

/-- every well-formed operation is accepted (or a refusing policy made the reader give up) -/
theorem step_ok (inp : List UInt8) (G : Prop) (m : MSt) (a : AState)
    (hs : Sim inp G (Spec.fastq inp) m a) (op : Op) (hwf : op.wf = true) :
    StepOk inp G (Spec.fastq inp) a op (stepM m op) := by
  cases op with
  | seekItem i =>
    by_cases hG : G
    · obtain ⟨a', h1, h2⟩ := step_seek inp G hG m a hs i
      exact Or.inl ⟨a', h1, h2⟩
    · exact Or.inr hG
  | next => exact step_next inp G _ m a hs
  | owned => exact step_next inp G _ m a hs
  | set j n => exact step_set inp G _ m a hs j n (wf_set hwf)
  | dump j => exact Or.inl ⟨a, step_dump inp G _ m a hs j, hs⟩
  | pos => exact Or.inl ⟨a, step_pos inp G _ m a hs, hs⟩

theorem run_accepted (inp : List UInt8) :
    ∀ (ops : List Op) (m : MSt) (a : AState), Sim inp True (Spec.fastq inp) m a →
      (∀ op ∈ ops, op.wf = true) →
      acceptsA (Spec.fastq inp) a ops (runM m ops) = true := by
  intro ops
  induction ops with
  | nil => intro m a _ _; rfl
  | cons op ops ih =>
    intro m a hs hops
    rcases step_ok inp True m a hs op (hops op List.mem_cons_self) with ⟨a', hacc, hs'⟩ | hG
    · simp only [runM, acceptsA, hacc]
      exact ih _ a' hs' (fun o ho => hops o (List.mem_cons_of_mem _ ho))
    · exact absurd trivial hG

/-- every finite history of single-record reads, owned reads, (exact-count) record-set
reads, dumps, position queries **and seeks to the position of any item of S** (a record, or the
group of the final error) – from any reader state, the target inside the buffer or not – on
every input, capacity ≥ 3, growing policy, script without failing events and chunking, is
accepted by the abstract reader A. -/
theorem fastq_history_accepted (inp : List UInt8) (cap : Nat) (hcap : 3 ≤ cap) (pol : Pol)
    (hpol : PolGrows pol) (script : List ReadEv) (hs : NoFail script) (chunk : Nat)
    (ops : List Op) (hops : ∀ op ∈ ops, op.wf = true) :
    accepted inp (mkM inp cap pol script chunk) ops = true :=
  run_accepted inp ops _ {}
    (sim_mkM inp True cap hcap pol hpol.wf1 (fun _ => hpol) script hs chunk) hops

/-- the same without seeks: every finite history of single-record reads, owned reads, record-set reads,
exact-count record-set reads, dumps and position queries, on every input, capacity ≥ 3,
growing policy, script without failing events and chunking, is accepted by the abstract
reader A: every observation, in order. -/
theorem fastq_history_accepted_noseek (inp : List UInt8) (cap : Nat) (hcap : 3 ≤ cap) (pol : Pol)
    (hpol : PolGrows pol) (script : List ReadEv) (hs : NoFail script) (chunk : Nat)
    (ops : List Op) (hops : ∀ op ∈ ops, op.wf = true ∧ noSeek op = true) :
    accepted inp (mkM inp cap pol script chunk) ops = true :=
  fastq_history_accepted inp cap hcap pol hpol script hs chunk ops fun op h => (hops op h).1

end SeqIo.Fastq
