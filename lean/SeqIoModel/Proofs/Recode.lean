import SeqIoModel.Proofs.WriteRoundtrip
import SeqIoModel.Proofs.FastqStreamLines
/-!
# LF and CRLF encodings of a file parse identically (property C12)

A well-formed file is given by its logical content (heads, sequence lines, …).  An *encoding*
chooses a terminator (`LF` or `CR LF`) per line and whether the last line is terminated.  The
reference semantics returns the same heads, lines and line numbers for every encoding; only the
byte offsets differ.
-/

open SeqIo SeqIo.Spec SeqIo.WriteProofs

namespace SeqIo.Recode

inductive Term | lf | crlf
deriving Repr, DecidableEq

def Term.cr : Term → List UInt8 | .lf => [] | .crlf => [CR]
def Term.bytes : Term → List UInt8 | .lf => [LF] | .crlf => [CR, LF]

theorem Term.bytes_eq (t : Term) : t.bytes = t.cr ++ [LF] := by cases t <;> rfl

theorem Term.lf_notin_cr (t : Term) : LF ∉ t.cr := by cases t <;> simp [Term.cr, LF, CR]

theorem lf_notin_line {l : List UInt8} (h : LF ∉ l) (t : Term) : LF ∉ l ++ t.cr := by
  simp only [List.mem_append, not_or]; exact ⟨h, t.lf_notin_cr⟩

/-- a terminated line in front of more text: the terminator's CR belongs to the piece before the
LF -/
theorem Term.append_bytes (l : List UInt8) (t : Term) (rest : List UInt8) :
    l ++ t.bytes ++ rest = (l ++ t.cr) ++ LF :: rest := by
  cases t <;> simp [Term.bytes, Term.cr]

/-- the last line gets its terminator only if `final` -/
def encodeLines : List (List UInt8 × Term) → Bool → List UInt8
  | [], _ => []
  | [(l, t)], final => l ++ (if final then t.bytes else [])
  | (l, t) :: x :: rest, final => l ++ t.bytes ++ encodeLines (x :: rest) final

theorem encodeLines_cons_ne (l : List UInt8) (t : Term) (rest : List (List UInt8 × Term))
    (final : Bool) (h : rest ≠ []) :
    encodeLines ((l, t) :: rest) final = l ++ t.bytes ++ encodeLines rest final := by
  cases rest with
  | nil => exact absurd rfl h
  | cons x rest => rw [encodeLines]

theorem encodeLines_cons_true (l : List UInt8) (t : Term) (rest : List (List UInt8 × Term)) :
    encodeLines ((l, t) :: rest) true = l ++ t.bytes ++ encodeLines rest true := by
  cases rest with
  | nil => simp [encodeLines]
  | cons x rest => rw [encodeLines]

theorem encodeLines_true (ls : List (List UInt8 × Term)) :
    encodeLines ls true = ls.flatMap fun p => p.1 ++ p.2.bytes := by
  induction ls with
  | nil => rfl
  | cons p ls ih =>
    obtain ⟨l, t⟩ := p
    rw [encodeLines_cons_true, ih]
    simp

theorem encodeLines_append (a b : List (List UInt8 × Term)) (final : Bool) (hb : b ≠ []) :
    encodeLines (a ++ b) final = encodeLines a true ++ encodeLines b final := by
  induction a with
  | nil => simp [encodeLines]
  | cons p a ih =>
    obtain ⟨l, t⟩ := p
    rw [List.cons_append, encodeLines_cons_ne _ _ _ _ (by simp [hb]), ih, encodeLines_cons_true]
    simp

/-! ## what the reference parsers see: the physical lines -/

def physLines : List (List UInt8 × Term) → Bool → List (List UInt8)
  | [], _ => []
  | [(l, t)], final => [l ++ (if final then t.cr else [])]
  | (l, t) :: x :: rest, final => (l ++ t.cr) :: physLines (x :: rest) final

theorem lines_encodeLines (ls : List (List UInt8 × Term)) (final : Bool)
    (h : ∀ p ∈ ls, LF ∉ p.1 ∧ p.1 ≠ []) : lines (encodeLines ls final) = physLines ls final := by
  fun_induction encodeLines ls final with
  | case1 final => simp [physLines, lines_nil]
  | case2 l t final =>
    have hl := h (l, t) (by simp)
    cases final with
    | true =>
      simp only [if_true, physLines]
      rw [← List.append_nil (l ++ t.bytes), Term.append_bytes,
        lines_cons _ _ (lf_notin_line hl.1 t), lines_nil]
    | false =>
      simp only [Bool.false_eq_true, if_false, List.append_nil, physLines]
      exact lines_single l hl.1 hl.2
  | case3 l t x rest final ih =>
    have hl := h (l, t) (by simp)
    rw [physLines, Term.append_bytes, lines_cons _ _ (lf_notin_line hl.1 t),
      ih (fun p hp => h p (by simp [hp]))]

inductive Forall2 {α β : Type} (R : α → β → Prop) : List α → List β → Prop
  | nil : Forall2 R [] []
  | cons {a b as bs} : R a b → Forall2 R as bs → Forall2 R (a :: as) (b :: bs)

/-! ## FASTA -/

def nb (r : FaRec) : List UInt8 × List (List UInt8) × Nat := (r.head, r.seqLines, r.line)

/-- `faGroup` looks at a line only through these three functions (and its length, for offsets) -/
def SameLine (p l : List UInt8) : Prop :=
  p.head? = l.head? ∧ trimCr p = trimCr l ∧ trimCr (p.drop 1) = trimCr (l.drop 1)

theorem nb_close {r r' : FaRec} (h : nb r = nb r') :
    nb { r with seqLines := r.seqLines.reverse } = nb { r' with seqLines := r'.seqLines.reverse } := by
  simp only [nb, Prod.mk.injEq] at h ⊢
  obtain ⟨h1, h2, h3⟩ := h
  exact ⟨h1, by rw [h2], h3⟩

theorem faGroup_congr {ps ls : List (List UInt8)} (h : Forall2 SameLine ps ls) :
    ∀ (b b' line : Nat) (cur cur' : Option FaRec), cur.map nb = cur'.map nb →
      (faGroup ps b line cur).map nb = (faGroup ls b' line cur').map nb := by
  induction h with
  | nil =>
    intro b b' line cur cur' hc
    cases cur <;> cases cur' <;> simp only [Option.map_none, Option.map_some, Option.some.injEq,
      reduceCtorEq] at hc
    · simp [faGroup]
    · simp only [faGroup, List.map_cons, List.map_nil, List.cons.injEq, and_true]
      exact nb_close hc
  | @cons p l ps ls hpl _ ih =>
    intro b b' line cur cur' hc
    obtain ⟨h1, h2, h3⟩ := hpl
    simp only [faGroup]
    rw [h1]
    cases cur <;> cases cur' <;> simp only [Option.map_none, Option.map_some, Option.some.injEq,
      reduceCtorEq] at hc
    · split
      · exact ih _ _ _ _ _ (by simp only [nb, Option.map_some, h3])
      · exact ih _ _ _ _ _ rfl
    · split
      · simp only [List.map_cons, List.cons.injEq]
        exact ⟨nb_close hc, ih _ _ _ _ _ (by simp only [nb, Option.map_some, h3])⟩
      · apply ih
        simp only [nb, Prod.mk.injEq, Option.map_some, Option.some.injEq] at hc ⊢
        exact ⟨hc.1, by rw [h2, hc.2.1], hc.2.2⟩

theorem sameLine_cr (l : List UInt8) (t : Term) (hne : l ≠ []) (hl : l.getLast? ≠ some CR) :
    SameLine (l ++ t.cr) l := by
  cases t with
  | lf => rw [Term.cr, List.append_nil]; exact ⟨rfl, rfl, rfl⟩
  | crlf =>
    cases l with
    | nil => exact absurd rfl hne
    | cons x xs =>
      refine ⟨rfl, by rw [Term.cr, trimCr_append_cr, trimCr_id _ hl], ?_⟩
      have : xs.getLast? ≠ some CR := by
        cases xs with
        | nil => simp
        | cons y ys => rwa [List.getLast?_cons_cons] at hl
      simp only [Term.cr, List.cons_append, List.drop_succ_cons, List.drop_zero]
      rw [trimCr_append_cr, trimCr_id _ this]

theorem physLines_sameLine (ls : List (List UInt8 × Term)) (final : Bool)
    (h : ∀ p ∈ ls, p.1 ≠ [] ∧ p.1.getLast? ≠ some CR) :
    Forall2 SameLine (physLines ls final) (ls.map Prod.fst) := by
  fun_induction physLines ls final with
  | case1 final => exact .nil
  | case2 l t final =>
    have hl := h (l, t) (by simp)
    refine .cons ?_ .nil
    cases final
    · exact sameLine_cr l .lf hl.1 hl.2
    · exact sameLine_cr l t hl.1 hl.2
  | case3 l t x rest final ih =>
    have hl := h (l, t) (by simp)
    exact .cons (sameLine_cr l t hl.1 hl.2) (ih fun p hp => h p (by simp [hp]))

theorem Forall2.cons_right {α β : Type} {R : α → β → Prop} {as : List α} {b : β} {bs : List β}
    (h : Forall2 R as (b :: bs)) : ∃ a as', as = a :: as' ∧ R a b ∧ Forall2 R as' bs := by
  cases h with
  | cons h1 h2 => exact ⟨_, _, rfl, h1, h2⟩

def faLines (recs : List (List UInt8 × List (List UInt8))) : List (List UInt8) :=
  recs.flatMap fun p => (GT :: p.1) :: p.2

theorem faLines_cons (p : List UInt8 × List (List UInt8)) (recs : List (List UInt8 × List (List UInt8))) :
    faLines (p :: recs) = (GT :: p.1) :: (p.2 ++ faLines recs) := by
  simp [faLines]

def FaOk (recs : List (List UInt8 × List (List UInt8))) : Prop :=
  ∀ p ∈ recs, HeadOk p.1 ∧ ∀ s ∈ p.2, SeqOk s ∧ s ≠ []

/-- what the parser is expected to return (line numbers 1-based), from the content alone -/
def faExpected : List (List UInt8 × List (List UInt8)) → Nat → List (List UInt8 × List (List UInt8) × Nat)
  | [], _ => []
  | p :: rest, line => (p.1, p.2, line) :: faExpected rest (line + 1 + p.2.length)

theorem faExpected_content (recs : List (List UInt8 × List (List UInt8))) (line : Nat) :
    (faExpected recs line).map (fun x => (x.1, x.2.1)) = recs := by
  induction recs generalizing line with
  | nil => rfl
  | cons p recs ih => simp [faExpected, ih]

theorem faLines_ok (recs : List (List UInt8 × List (List UInt8))) (hok : FaOk recs) :
    ∀ l ∈ faLines recs, LF ∉ l ∧ l ≠ [] ∧ l.getLast? ≠ some CR := by
  intro l hl
  simp only [faLines, List.mem_flatMap, List.mem_cons] at hl
  obtain ⟨p, hp, rfl | hl⟩ := hl
  · have := (hok p hp).1
    exact ⟨List.not_mem_cons_of_ne_of_not_mem (by decide) this.1, by simp,
      getLast?_GT_cons _ this.2⟩
  · have := ((hok p hp).2 l hl)
    exact ⟨this.1.1, this.2, getLast?_ne_of_not_mem _ _ this.1.2.1⟩

theorem faGroup_logical (recs : List (List UInt8 × List (List UInt8))) (hok : FaOk recs)
    (byte line : Nat) (cur : Option FaRec) :
    ∃ out : List FaRec,
      faGroup (faLines recs) byte line cur =
        (match cur with
          | none => []
          | some r => [{ r with seqLines := r.seqLines.reverse }]) ++ out ∧
      out.map nb = faExpected recs line := by
  induction recs generalizing byte line cur with
  | nil =>
    refine ⟨[], ?_, rfl⟩
    cases cur <;> simp [faLines, faGroup]
  | cons p recs ih =>
    have hp := hok p (by simp)
    rw [faLines_cons, faGroup_head p.1 hp.1.2]
    obtain ⟨b', e⟩ := faGroup_seqs p.2 (fun c hc => seqOk_line c (hp.2 c hc).1) (faLines recs)
      (byte + (p.1.length + 1) + 1) (line + 1)
      { byte := byte, line := line, head := p.1, seqLines := [] }
    obtain ⟨out, h1, h2⟩ := ih (fun x hx => hok x (by simp [hx])) b' (line + 1 + p.2.length)
      (some { byte := byte, line := line, head := p.1, seqLines := p.2.reverse ++ [] })
    refine ⟨{ byte := byte, line := line, head := p.1, seqLines := p.2 } :: out, ?_, ?_⟩
    · rw [e, h1]; cases cur <;> simp
    · rw [List.map_cons, h2]; rfl

theorem lines_encodeFasta (recs : List (List UInt8 × List (List UInt8))) (hok : FaOk recs)
    (tls : List (List UInt8 × Term)) (htls : tls.map Prod.fst = faLines recs) (final : Bool) :
    lines (encodeLines tls final) = physLines tls final := by
  apply lines_encodeLines
  intro p hp
  have := faLines_ok recs hok p.1 (by rw [← htls]; exact List.mem_map_of_mem hp)
  exact ⟨this.1, this.2.1⟩

/-- the general form: any assignment of terminators to the lines of the content -/
theorem fasta_recode_lines (recs : List (List UInt8 × List (List UInt8))) (hok : FaOk recs)
    (tls : List (List UInt8 × Term)) (htls : tls.map Prod.fst = faLines recs) (final : Bool) :
    ∃ rs, Spec.fasta (encodeLines tls final) = .records rs ∧
      rs.map (fun r => (r.head, r.seqLines, r.line)) = faExpected recs 1 := by
  have hlok := faLines_ok recs hok
  have hlines := lines_encodeFasta recs hok tls htls final
  have hsame := physLines_sameLine tls final fun p hp => by
    have := hlok p.1 (by rw [← htls]; exact List.mem_map_of_mem hp)
    exact ⟨this.2.1, this.2.2⟩
  rw [htls] at hsame
  obtain ⟨out, h1, h2⟩ := faGroup_logical recs hok 0 1 none
  simp only [List.nil_append] at h1
  unfold Spec.fasta
  rw [hlines]
  cases recs with
  | nil =>
    have : tls = [] := by simpa [faLines] using htls
    subst this
    exact ⟨[], by simp [physLines, skipBlank], rfl⟩
  | cons p recs =>
    have hp := hok p (by simp)
    rw [faLines_cons] at hsame h1
    obtain ⟨pl, pls, hpe, hpl, hrest⟩ := hsame.cons_right
    rw [hpe]
    have hh : pl.head? = some GT := by rw [hpl.1]; rfl
    have hnb : blank pl = false := by
      have := not_blank_GT p.1
      simp only [blank] at this ⊢
      rw [hpl.2.1]; exact this
    refine ⟨faGroup (pl :: pls) 0 1 none, ?_, ?_⟩
    · simp [skipBlank, hnb, hh]
    · have := faGroup_congr (.cons hpl hrest) 0 0 1 none none rfl
      rw [h1] at this
      rw [← h2, ← this]
      rfl

/-- a FASTA file: the lines of `recs`, line `i` (0-based, counted over the whole file) terminated
by `terms i`, the last one only if `final` -/
def encodeFasta (recs : List (List UInt8 × List (List UInt8))) (terms : Nat → Term) (final : Bool) :
    List UInt8 :=
  encodeLines ((faLines recs).mapIdx fun i l => (l, terms i)) final

theorem map_fst_mapIdx (ls : List (List UInt8)) (terms : Nat → Term) :
    (ls.mapIdx fun i l => (l, terms i)).map Prod.fst = ls := by
  induction ls generalizing terms with
  | nil => rfl
  | cons l ls ih =>
    rw [List.mapIdx_cons, List.map_cons, ih]

/-- Heads, sequence lines and line numbers returned by the reference semantics do
not depend on the terminators chosen per line nor on the presence of the final terminator. -/
theorem fasta_recode_invariant (recs : List (List UInt8 × List (List UInt8))) (hok : FaOk recs)
    (terms : Nat → Term) (final : Bool) :
    ∃ rs, Spec.fasta (encodeFasta recs terms final) = .records rs ∧
      rs.map (fun r => (r.head, r.seqLines, r.line)) = faExpected recs 1 :=
  fasta_recode_lines recs hok _ (map_fst_mapIdx _ terms) final

/-- heads and lines are those of the content, in order -/
theorem fasta_recode_content (recs : List (List UInt8 × List (List UInt8))) (hok : FaOk recs)
    (terms : Nat → Term) (final : Bool) :
    ∃ rs, Spec.fasta (encodeFasta recs terms final) = .records rs ∧
      rs.map (fun r => (r.head, r.seqLines)) = recs := by
  obtain ⟨rs, h1, h2⟩ := fasta_recode_invariant recs hok terms final
  refine ⟨rs, h1, ?_⟩
  have := congrArg (List.map fun x => (x.1, x.2.1)) h2
  rw [faExpected_content, List.map_map] at this
  exact this

/-- no CR reaches the caller (for heads that do not contain one) -/
theorem fasta_no_cr (recs : List (List UInt8 × List (List UInt8))) (hok : FaOk recs)
    (hcr : ∀ p ∈ recs, CR ∉ p.1) (terms : Nat → Term) (final : Bool) :
    ∃ rs, Spec.fasta (encodeFasta recs terms final) = .records rs ∧
      ∀ r ∈ rs, CR ∉ r.head ∧ ∀ s ∈ r.seqLines, CR ∉ s := by
  obtain ⟨rs, h1, h2⟩ := fasta_recode_content recs hok terms final
  refine ⟨rs, h1, ?_⟩
  intro r hr
  have : (r.head, r.seqLines) ∈ recs := by
    rw [← h2]; exact List.mem_map_of_mem (f := fun r : FaRec => (r.head, r.seqLines)) hr
  exact ⟨hcr _ this, fun s hs => ((hok _ this).2 s hs).1.2.1⟩

/-! ## FASTQ -/

/-- head, sequence, quality, and whether the separator line repeats the head -/
abbrev FqContent := List UInt8 × List UInt8 × List UInt8 × Bool

def fqRecLines (p : FqContent) : List (List UInt8) :=
  [AT :: p.1, p.2.1, PLUS :: (if p.2.2.2 then p.1 else []), p.2.2.1]

def fqLines (recs : List FqContent) : List (List UInt8) := recs.flatMap fqRecLines

/-- a FASTQ file with one terminator for all lines, the last one terminated only if `final` -/
def encodeFastq (recs : List FqContent) (t : Term) (final : Bool) : List UInt8 :=
  encodeLines ((fqLines recs).map fun l => (l, t)) final

def FqOk (recs : List FqContent) : Prop :=
  ∀ p ∈ recs, HeadOk p.1 ∧ FieldOk p.2.1 ∧ FieldOk p.2.2.1 ∧ p.2.1.length = p.2.2.1.length

def fqExpected : List FqContent → Nat → List (List UInt8 × List UInt8 × List UInt8 × Nat)
  | [], _ => []
  | p :: rest, line => (p.1, p.2.1, p.2.2.1, line) :: fqExpected rest (line + 4)

def enc4 (p : FqContent) (t : Term) : List UInt8 :=
  encodeLines ((fqRecLines p).map fun l => (l, t)) true

/-- the four lines of a record as they stand in a file: the first three end with `t`, the last
one with `t4` (`.lf` for a last line without terminator) -/
def recLines (p : FqContent) (t t4 : Term) : List (List UInt8) :=
  [AT :: (p.1 ++ t.cr), p.2.1 ++ t.cr, PLUS :: ((if p.2.2.2 then p.1 else []) ++ t.cr),
    p.2.2.1 ++ t4.cr]

theorem enc4_eq (p : FqContent) (t : Term) : enc4 p t = unlines (recLines p t t) := by
  simp [enc4, encodeLines_true, fqRecLines, recLines, Term.bytes_eq, unlines]

theorem encodeFastq_nil (t : Term) (final : Bool) : encodeFastq [] t final = [] := by
  simp [encodeFastq, fqLines, encodeLines]

theorem fqLines_cons (p : FqContent) (recs : List FqContent) :
    fqLines (p :: recs) = fqRecLines p ++ fqLines recs := by simp [fqLines]

theorem fqLines_ne_nil (p : FqContent) (recs : List FqContent) : fqLines (p :: recs) ≠ [] := by
  simp [fqLines_cons, fqRecLines]

theorem encodeFastq_cons (p : FqContent) (recs : List FqContent) (t : Term) (final : Bool)
    (h : recs ≠ [] ∨ final = true) :
    encodeFastq (p :: recs) t final = enc4 p t ++ encodeFastq recs t final := by
  unfold encodeFastq enc4
  rw [fqLines_cons, List.map_append]
  rcases h with h | h
  · apply encodeLines_append
    cases recs with
    | nil => exact absurd rfl h
    | cons q recs => simpa using fqLines_ne_nil q recs
  · subst h
    simp only [encodeLines_true, List.flatMap_append]

theorem more_or_last (recs : List FqContent) (final : Bool) :
    (recs ≠ [] ∨ final = true) ∨ (recs = [] ∧ final = false) := by
  cases recs <;> cases final <;> simp

theorem encodeFastq_single_false (p : FqContent) (t : Term) :
    encodeFastq [p] t false = Unchanged.joinLF (recLines p t .lf) := by
  simp [encodeFastq, fqLines, fqRecLines, encodeLines, Term.bytes_eq, recLines, Unchanged.joinLF,
    Term.cr]

theorem trimCr_cr (l : List UInt8) (h : l.getLast? ≠ some CR) (t : Term) : trimCr (l ++ t.cr) = l := by
  cases t
  · simpa [Term.cr] using trimCr_id l h
  · exact trimCr_append_cr l

theorem fqGroup_rec (h s x q : List UInt8) (hh : HeadOk h) (hs : FieldOk s) (hq : FieldOk q)
    (hl : s.length = q.length) (t1 t2 t3 t4 : Term) (byte line : Nat) (atEof : Bool) :
    fqGroup false (AT :: (h ++ t1.cr)) (s ++ t2.cr) (PLUS :: (x ++ t3.cr)) (q ++ t4.cr) byte line atEof =
      .record { byte := byte, line := line, head := h, seq := s, qual := q } := by
  have e1 := trimCr_cr h hh.2 t1
  have e2 := trimCr_cr s (getLast?_ne_of_not_mem s CR hs.2) t2
  have e4 := trimCr_cr q (getLast?_ne_of_not_mem q CR hq.2) t4
  simp [fqGroup, e1, e2, e4, hl]

theorem recLines_noLF (p : FqContent) (hh : HeadOk p.1) (hs : FieldOk p.2.1) (hq : FieldOk p.2.2.1)
    (t t4 : Term) : ∀ l ∈ recLines p t t4, LF ∉ l := by
  intro l hl
  simp only [recLines, List.mem_cons, List.not_mem_nil, or_false] at hl
  rcases hl with rfl | rfl | rfl | rfl
  · exact List.not_mem_cons_of_ne_of_not_mem (by decide) (lf_notin_line hh.1 t)
  · exact lf_notin_line hs.1 t
  · refine List.not_mem_cons_of_ne_of_not_mem (by decide) (lf_notin_line ?_ t)
    split
    · exact hh.1
    · simp
  · exact lf_notin_line hq.1 t4

theorem fqGo_step (p : FqContent) (hh : HeadOk p.1) (hs : FieldOk p.2.1) (hq : FieldOk p.2.2.1)
    (hl : p.2.1.length = p.2.2.1.length) (t : Term) (e : List UInt8) (byte line : Nat) :
    fqGo false (splitLF (enc4 p t ++ e)) byte line =
      .record { byte := byte, line := line, head := p.1, seq := p.2.1, qual := p.2.2.1 } ::
        fqGo false (splitLF e) (byte + (enc4 p t).length) (line + 4) := by
  rw [enc4_eq, splitLF_unlines_append _ (recLines_noLF p hh hs hq t t)]
  simp only [recLines, List.cons_append, List.nil_append]
  rw [Fastq.fqGo_four _ _ _ _ _ _ (splitLF_ne_nil e), fqGroup_rec _ _ _ _ hh hs hq hl]
  simp only [unlines, List.flatMap_cons, List.flatMap_nil, List.length_append, List.length_cons,
    List.length_nil]
  congr 2
  omega

theorem fqGo_last (p : FqContent) (hh : HeadOk p.1) (hs : FieldOk p.2.1) (hq : FieldOk p.2.2.1)
    (hl : p.2.1.length = p.2.2.1.length) (t : Term) (byte line : Nat) :
    fqGo false (splitLF (encodeFastq [p] t false)) byte line =
      [.record { byte := byte, line := line, head := p.1, seq := p.2.1, qual := p.2.2.1 }] := by
  rw [encodeFastq_single_false, Unchanged.splitLF_joinLF _ (by simp [recLines])
    (recLines_noLF p hh hs hq t .lf)]
  simp only [recLines]
  rw [Fastq.fqGo_three, fqGroup_rec _ _ _ _ hh hs hq hl]

/-- the reference parser on an encoded file, possibly followed by text `e` that yields nothing -/
theorem fqGo_encoded (recs : List FqContent) (hok : FqOk recs) (t : Term) (final : Bool)
    (e : List UInt8) (he : final = false → e = [])
    (hE : ∀ b l, fqGo false (splitLF e) b l = []) (byte line : Nat) :
    ∃ rs : List FqRec,
      fqGo false (splitLF (encodeFastq recs t final ++ e)) byte line = rs.map FqItem.record ∧
      rs.map (fun r => (r.head, r.seq, r.qual, r.line)) = fqExpected recs line := by
  induction recs generalizing byte line with
  | nil => exact ⟨[], by rw [encodeFastq_nil, List.nil_append, hE]; rfl, rfl⟩
  | cons p recs ih =>
    obtain ⟨hh, hs, hq, hl⟩ := hok p (by simp)
    rcases more_or_last recs final with hc | ⟨rfl, rfl⟩
    · have e1 := fqGo_step p hh hs hq hl t (encodeFastq recs t final ++ e) byte line
      obtain ⟨rs, e2, e3⟩ := ih (fun x hx => hok x (by simp [hx])) (byte + (enc4 p t).length) (line + 4)
      refine ⟨{ byte := byte, line := line, head := p.1, seq := p.2.1, qual := p.2.2.1 } :: rs, ?_, ?_⟩
      · rw [encodeFastq_cons p recs t final hc, List.append_assoc, e1, e2]; rfl
      · rw [List.map_cons, e3]; rfl
    · rw [he rfl, List.append_nil, fqGo_last p hh hs hq hl]
      exact ⟨[{ byte := byte, line := line, head := p.1, seq := p.2.1, qual := p.2.2.1 }], rfl, rfl⟩

/-- The LF and the CRLF version of a file, with or without the terminator of the
last line, yield records only, with the same heads, sequences, qualities and line numbers
`1, 5, 9, …`. -/
theorem fastq_recode_invariant (recs : List FqContent) (hok : FqOk recs) (t : Term) (final : Bool) :
    ∃ rs : List FqRec, Spec.fastq (encodeFastq recs t final) = rs.map FqItem.record ∧
      rs.map (fun r => (r.head, r.seq, r.qual, r.line)) = fqExpected recs 1 := by
  have := fqGo_encoded recs hok t final [] (fun _ => rfl) (fun b l => fqGo_end false b l) 0 1
  rw [List.append_nil] at this
  exact this

theorem fqGo_blank_lines (t : Term) (trail : Nat) (htrail : trail ≤ 2) (b l : Nat) :
    fqGo false (splitLF (List.replicate trail t.bytes).flatten) b l = [] := by
  have : trail = 0 ∨ trail = 1 ∨ trail = 2 := by omega
  rcases this with rfl | rfl | rfl <;> cases t <;> rfl

/-- up to two blank lines (with the file's terminator) after the terminated last line change nothing -/
theorem fastq_recode_trailing (recs : List FqContent) (hok : FqOk recs) (t : Term) (trail : Nat)
    (htrail : trail ≤ 2) :
    ∃ rs : List FqRec,
      Spec.fastq (encodeFastq recs t true ++ (List.replicate trail t.bytes).flatten) =
        rs.map FqItem.record ∧
      rs.map (fun r => (r.head, r.seq, r.qual, r.line)) = fqExpected recs 1 :=
  fqGo_encoded recs hok t true _ (fun h => by cases h) (fqGo_blank_lines t trail htrail) 0 1

theorem fqExpected_content (recs : List FqContent) (line : Nat) :
    (fqExpected recs line).map (fun x => (x.1, x.2.1, x.2.2.1)) =
      recs.map (fun p => (p.1, p.2.1, p.2.2.1)) := by
  induction recs generalizing line with
  | nil => rfl
  | cons p recs ih => simp [fqExpected, ih]

theorem fqExpected_mem {recs : List FqContent} {line : Nat}
    {x : List UInt8 × List UInt8 × List UInt8 × Nat} (h : x ∈ fqExpected recs line) :
    ∃ p ∈ recs, x.1 = p.1 ∧ x.2.1 = p.2.1 ∧ x.2.2.1 = p.2.2.1 := by
  induction recs generalizing line with
  | nil => cases h
  | cons p recs ih =>
    rcases List.mem_cons.mp h with rfl | h
    · exact ⟨p, List.mem_cons_self, rfl, rfl, rfl⟩
    · obtain ⟨q, hq, e⟩ := ih h
      exact ⟨q, List.mem_cons_of_mem _ hq, e⟩

/-- no CR reaches the caller (for heads that do not contain one) -/
theorem fastq_no_cr (recs : List FqContent) (hok : FqOk recs) (hcr : ∀ p ∈ recs, CR ∉ p.1)
    (t : Term) (final : Bool) :
    ∃ rs : List FqRec, Spec.fastq (encodeFastq recs t final) = rs.map FqItem.record ∧
      ∀ r ∈ rs, CR ∉ r.head ∧ CR ∉ r.seq ∧ CR ∉ r.qual := by
  obtain ⟨rs, h1, h2⟩ := fastq_recode_invariant recs hok t final
  refine ⟨rs, h1, fun r hr => ?_⟩
  obtain ⟨p, hp, (a : r.head = p.1), (b : r.seq = p.2.1), (c : r.qual = p.2.2.1)⟩ := fqExpected_mem
    (h2 ▸ List.mem_map_of_mem (f := fun r : FqRec => (r.head, r.seq, r.qual, r.line)) hr)
  have := hok p hp
  exact ⟨a ▸ hcr p hp, b ▸ this.2.1.2, c ▸ this.2.2.1.2⟩

end SeqIo.Recode
