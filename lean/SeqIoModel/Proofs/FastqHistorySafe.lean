import SeqIoModel.Proofs.FastqHistory
/-!
# FASTQ histories: totality

No history of API calls – with read scripts that fail, seeks that fail, policies that refuse –
makes the reader panic or run out of fuel, for every capacity ≥ 1.  `SafeB`/`SafeSt` are a
content-free shadow of `Win`/`Good`: offsets and line feeds in the buffer, nothing about what the
input holds; `FoundS`, `StepS`, `SetOutS` shadow `Found`, `Resumed`, `SetOut`, and the proofs walk
through the reader the same way.
-/

namespace SeqIo.Fastq
open SeqIo SeqIo.Spec SeqIo.FillProofs SeqIo.Fastq.Hist

structure SafeB (L : Nat) (r : Reader) : Prop where
  inpL : r.br.src.inp.length = L
  polwf : PolWf1 r.pol
  cap1 : 1 ≤ r.br.cap
  len_le : r.br.buf.length ≤ r.br.cap
  len_cur : r.br.buf.length ≤ r.br.src.cursor
  beyond : L < r.br.src.cursor → r.br.buf.length = 0

def avail (L : Nat) (r : Reader) : Nat :=
  (r.br.buf.length - r.bp.pos0) + (L - r.br.src.cursor)

theorem SafeB.mono {L r r'} (h : SafeB L r) (hi : r'.br.src.inp = r.br.src.inp)
    (hp : PolWf1 r'.pol) (hc : r.br.cap ≤ r'.br.cap) (hl : r'.br.buf.length ≤ r.br.buf.length)
    (hcur : r'.br.src.cursor = r.br.src.cursor) : SafeB L r' := by
  obtain ⟨a, -, c, d, e, f⟩ := h
  rw [← hcur] at e f
  exact ⟨by rw [hi]; exact a, hp, Nat.le_trans c hc, Nat.le_trans hl (Nat.le_trans d hc),
    Nat.le_trans hl e, fun h => Nat.eq_zero_of_le_zero (Nat.le_trans hl (Nat.le_of_eq (f h)))⟩

theorem SafeB.congr {L r r'} (h : SafeB L r) (hbr : r'.br = r.br) (hpol : r'.pol = r.pol) :
    SafeB L r' :=
  h.mono (by rw [hbr]) (hpol ▸ h.polwf) (by rw [hbr]; exact Nat.le_refl _)
    (by rw [hbr]; exact Nat.le_refl _) (by rw [hbr])

theorem avail_set_bp {L : Nat} (r : Reader) (bp' : BufPos) (ip : Option RecordPos)
    (h : bp'.pos0 = r.bp.pos0) : avail L { r with bp := bp', incompletePos := ip } = avail L r := by
  simp only [avail, h]

/-- measure of the loop of `resume_incomplete_search`: unread input, plus one while the buffer
is full -/
def muS (L : Nat) (r : Reader) : Nat :=
  (L - r.br.src.cursor) + (if r.br.buf.length < r.br.cap then 0 else 1)

theorem muS_lt {L fuel : Nat} (h : L + 2 ≤ fuel) (r : Reader) : muS L r + 1 ≤ fuel := by
  have := Nat.sub_le L r.br.src.cursor
  simp only [muS]
  generalize L - r.br.src.cursor = x at this
  split <;> omega

/-- one `fill_buf` call, whether it succeeds or fails; after a success the buffer is full or the
input is exhausted, so the measure of a buffer that had room has dropped -/
theorem fill_safe {L : Nat} {r : Reader} (sb : SafeB L r) :
    ∃ br' ext res, fillBuf r.br = (br', res) ∧ br'.buf = r.br.buf ++ ext ∧
      SafeB L { r with br := br' } ∧ avail L { r with br := br' } ≤ avail L r ∧
      (∀ n, res = .ok n → r.br.buf.length < r.br.cap →
        muS L { r with br := br' } ≤ L - r.br.src.cursor) := by
  obtain ⟨a, b, c, d, e, f⟩ := sb
  have : ∃ br' res m, fillBuf r.br = (br', res) ∧
      m ≤ min (r.br.cap - r.br.buf.length) r.br.src.remaining ∧
      br'.buf = r.br.buf ++ (r.br.src.inp.drop r.br.src.cursor).take m ∧ br'.cap = r.br.cap ∧
      br'.src.inp = r.br.src.inp ∧ br'.src.cursor = r.br.src.cursor + m ∧
      (∀ n, res = .ok n → br'.buf.length < br'.cap → br'.src.remaining = 0) := by
    rcases h : fillBuf r.br with ⟨br', (k | n)⟩
    · obtain ⟨-, -, m, -, -, -, hm, h'⟩ := fillBuf_error r.br br' k h
      exact ⟨br', _, m, rfl, hm, h'.1, h'.2.1, h'.2.2.1, h'.2.2.2, nofun⟩
    · obtain ⟨hn, _, hs⟩ := fillBuf_ok r.br br' n h
      exact ⟨br', _, n, rfl, Nat.le_of_eq hn, hs.buf, hs.cap, hs.inp, hs.cursor,
        fun _ _ => fillBuf_full_or_eof r.br br' n h⟩
  obtain ⟨br', res, m, hfill, hm, hbuf, hcap, hinp, hcur, hok⟩ := this
  rw [Src.remaining, a] at hm
  obtain ⟨h1, h2⟩ := Nat.le_min.mp hm
  have hlen : br'.buf.length = r.br.buf.length + m := by
    rw [hbuf, List.length_append, length_take_drop _ _ _ (by rw [a]; exact h2)]
  refine ⟨br', _, res, hfill, hbuf,
    ⟨by rw [← a]; exact congrArg _ hinp, b, by rw [← hcap] at c; exact c, ?_, ?_, ?_⟩, ?_,
    fun n hn hlt => ?_⟩
  · simp only [hlen, hcap]; exact Nat.add_le_of_le_sub' d h1
  · simp only [hlen, hcur]; exact Nat.add_le_add_right e m
  · -- beyond the end of the input nothing is appended
    simp only [hlen, hcur]
    intro h
    have hc : L < r.br.src.cursor :=
      Nat.lt_of_not_le fun hcl => Nat.not_le_of_lt h (Nat.add_le_of_le_sub' hcl h2)
    rw [f hc, Nat.eq_zero_of_le_zero
      (Nat.le_trans h2 (Nat.le_of_eq (Nat.sub_eq_zero_of_le (Nat.le_of_lt hc))))]
  -- for the last two, the unread input is written as `m + y`
  all_goals
    obtain ⟨y, hy⟩ := Nat.exists_eq_add_of_le h2
    have hy' : L - (r.br.src.cursor + m) = y := by rw [Nat.sub_add_eq, hy, Nat.add_sub_cancel_left]
  · simp only [avail, hlen, hcur, hy, hy']
    clear h1 h2 hy hy' f
    omega
  · have := hok n hn
    simp only [Src.remaining, hinp, a, hlen, hcap, hcur, hy'] at this
    simp only [muS, hlen, hcap, hcur, hy, hy']
    clear h1 h2 hy hy' f
    split <;> omega

/-- a record has just been found (`A` bounds the bytes that are not yet consumed) -/
structure ShownS (L A : Nat) (st : State) (r : Reader) : Prop where
  sb : SafeB L r
  view : (viewRec r.br.buf r.bp).isSome = true
  p01 : r.bp.pos0 < r.bp.pos1
  p1l : r.bp.pos1 ≤ r.br.buf.length
  av : avail L r ≤ A
  rest : (r.state = st ∧ r.incompletePos = none ∧ r.bp.pos1 + 1 ≤ r.br.buf.length) ∨
    r.state = .finished

def FinS (L : Nat) (r : Reader) : Prop := r.state = .finished ∧ SafeB L r

def FoundS (L A : Nat) (st : State) (x : Reader × Res Bool) : Prop :=
  (x.2 = .ok true ∧ ShownS L A st x.1) ∨ (x.2 = .ok false ∧ FinS L x.1) ∨
  (∃ e, x.2 = .err e ∧ FinS L x.1)

theorem FoundS.mono {L A A' st x} (h : FoundS L A st x) (hle : A ≤ A') : FoundS L A' st x := by
  rcases h with ⟨h1, h2⟩ | h | h
  · exact Or.inl ⟨h1, h2.sb, h2.view, h2.p01, h2.p1l, Nat.le_trans h2.av hle, h2.rest⟩
  · exact Or.inr (Or.inl h)
  · exact Or.inr (Or.inr h)

theorem validate_cases (r : Reader) (hrec : Rec4 r.br.buf r.bp) :
    (validate r = (r, .ok ()) ∧ (viewRec r.br.buf r.bp).isSome = true ∧
      ∃ sq ql, seq r.br.buf r.bp = some sq ∧ qual r.br.buf r.bp = some ql) ∨
    (∃ e, validate r = ({ r with state := .finished }, .err e)) := by
  have hv := validate_spec r hrec
  split at hv
  · obtain ⟨v1, v2, v3, v4, -, -⟩ := hv
    exact Or.inl ⟨v1, by rw [viewRec_of_views v2 v3 v4]; rfl, _, _, v3, v4⟩
  · exact Or.inr ⟨_, hv.1⟩

theorem checkEndQ_safe {L st r} (sb : SafeB L r) (hst : r.state = .finished)
    (hrec : Rec4 r.br.buf r.bp) : FoundS L (avail L r) st (checkEndQ r) := by
  rcases validate_cases r hrec with ⟨hv, hview, sq, ql, hs, hq⟩ | ⟨e, hv⟩
  · have hge := getErrorPos_true r 0 hrec.h1 (Nat.le_of_lt
      (Nat.lt_of_lt_of_le (Nat.lt_trans hrec.h2 hrec.h3) (Nat.le_trans hrec.h4 hrec.h5)))
    simp only [checkEndQ, hv, hs, hq, hge]
    split
    · exact Or.inr (Or.inr ⟨_, rfl, hst, sb⟩)
    · exact Or.inl ⟨rfl, sb, hview, hrec.p01, hrec.h5, Nat.le_refl _, Or.inr hst⟩
  · simp only [checkEndQ, hv]
    exact Or.inr (Or.inr ⟨e, rfl, rfl, sb.congr rfl rfl⟩)

theorem checkEnd_safe {L st r} (sb : SafeB L r) (hst : r.state = .finished)
    (h0 : r.bp.pos0 ≤ r.br.buf.length) (ip : RecordPos) (hpre : Pre r.br.buf r.bp ip) :
    FoundS L (avail L r) st (checkEnd r ip) := by
  by_cases hq : ip = .qual
  · subst hq
    rw [checkEnd_qual]
    exact checkEndQ_safe (r := { r with bp := { r.bp with pos1 := r.br.buf.length } })
      (sb.congr rfl rfl) hst
      (Pre.rec4 (bp := { r.bp with pos1 := r.br.buf.length }) hpre (nl_le hpre.2.2) (Nat.le_refl _))
  · have key : ∃ ep, getErrorPos r ip.ord (decide (ip.ord > RecordPos.head.ord)) = some ep := by
      cases ip with
      | qual => exact absurd rfl hq
      | head => exact ⟨_, getErrorPos_false r 0⟩
      | seq =>
        have a' := nl_some (show nl r.br.buf r.bp.pos0 = some r.bp.seq from hpre)
        exact ⟨_, getErrorPos_true r 1 a'.1 a'.2.1⟩
      | sep =>
        have a' := nl_some hpre.1
        exact ⟨_, getErrorPos_true r 2 a'.1 a'.2.1⟩
    obtain ⟨ep, hep⟩ := key
    rw [checkEnd_few r ip hq h0 ep hep]
    split
    · exact Or.inr (Or.inl ⟨rfl, hst, sb⟩)
    · exact Or.inr (Or.inr ⟨_, rfl, hst, sb⟩)

theorem si_safe {L r} (ip : RecordPos) (sb : SafeB L r) (h0 : r.bp.pos0 ≤ r.br.buf.length)
    (hpre : Pre r.br.buf r.bp ip) :
    (∃ bp' ip', bp'.pos0 = r.bp.pos0 ∧ Pre r.br.buf bp' ip' ∧
      searchIncomplete r ip = ({ r with bp := bp', incompletePos := some ip' }, .ok (some ip'))) ∨
    (∃ bp', searchIncomplete r ip = ({ r with bp := bp', incompletePos := none }, .ok none) ∧
      ShownS L (avail L r) r.state { r with bp := bp', incompletePos := none }) ∨
    (∃ bp' e, searchIncomplete r ip =
      ({ r with bp := bp', incompletePos := none, state := .finished }, .err e)) := by
  rcases si_spec r ip h0 hpre with ⟨bp', ip', hp0, hsc, hres⟩ | ⟨bp', hp0, hf4, hres⟩
  · exact Or.inl ⟨bp', ip', hp0, hsc.1, hres⟩
  · have hrec := hf4.rec4
    rcases validate_cases { r with bp := bp', incompletePos := none } hrec with
      ⟨hv, hview, -⟩ | ⟨e, hv⟩
    · exact Or.inr (Or.inl ⟨bp', by rw [hres, hv]; rfl, sb.congr rfl rfl, hview, hrec.p01, hrec.h5,
        Nat.le_of_eq (avail_set_bp r bp' _ hp0), Or.inl ⟨rfl, rfl, hf4.end_le⟩⟩)
    · exact Or.inr (Or.inr ⟨bp', e, by rw [hres, hv]; rfl⟩)

/-! ## the loop of `resume_incomplete_search` -/

/-- safe outcomes `x` of a search resumed at `r`: a safe result, and without permission to shift
(`mk = false`) the buffer has only been extended -/
def StepS (L : Nat) (mk : Bool) (r : Reader) (x : Reader × Res Bool) : Prop :=
  FoundS L (avail L r) r.state x ∧ Ext mk r x.1

theorem StepS.same {L mk r x} (h : FoundS L (avail L r) r.state x) (hbuf : x.1.br.buf = r.br.buf) :
    StepS L mk r x :=
  ⟨h, fun _ => ⟨[], by rw [hbuf, List.append_nil]⟩⟩

def ResumeS (L : Nat) (mk : Bool) (f : Nat) : Prop :=
  ∀ (r : Reader) (ip : RecordPos), SafeB L r → r.bp.pos0 ≤ r.br.buf.length →
    Pre r.br.buf r.bp ip → muS L r + 1 ≤ f → StepS L mk r (resume f ip mk r)

theorem resumeK_safe {L f mk} (ih : ResumeS L mk f) (ip : RecordPos) (r : Reader)
    (sb : SafeB L r) (h0 : r.bp.pos0 ≤ r.br.buf.length) (hpre : Pre r.br.buf r.bp ip)
    (hmu : muS L r + 1 ≤ f) : StepS L mk r (resumeK f ip mk r) := by
  rcases si_safe ip sb h0 hpre with ⟨bp', ip', hp0, hpre', hres⟩ | ⟨bp', hres, hsh⟩ | ⟨bp', e, hres⟩
  · simp only [resumeK, hres]
    obtain ⟨hF, hE⟩ := ih { r with bp := bp', incompletePos := some ip' } ip' (sb.congr rfl rfl)
      (Nat.le_trans (Nat.le_of_eq hp0) h0) hpre' hmu
    exact ⟨hF.mono (Nat.le_of_eq (avail_set_bp r bp' _ hp0)), hE⟩
  · simp only [resumeK, hres]
    exact .same (Or.inl ⟨rfl, hsh⟩) rfl
  · simp only [resumeK, hres]
    exact .same (Or.inr (Or.inr ⟨e, rfl, rfl, sb.congr rfl rfl⟩)) rfl

/-- an iteration from the refill on, `r1` being the reader after `grow` or `make_room` and `x`
the result of the iteration -/
theorem refill_safe {L f mk} (ih : ResumeS L mk f) (ip : RecordPos) (r1 : Reader)
    (x : Reader × Res Bool) (sb1 : SafeB L r1)
    (hlt : r1.br.buf.length < r1.br.cap) (h0 : r1.bp.pos0 ≤ r1.br.buf.length)
    (hpre : Pre r1.br.buf r1.bp ip) (hf : L - r1.br.src.cursor + 1 ≤ f)
    (herr : ∀ br' k, fillBuf r1.br = (br', .error k) →
      x = ({ r1 with br := br', state := .finished }, .err (.io k)))
    (hok : ∀ br' n, fillBuf r1.br = (br', .ok n) → x = resumeK f ip mk { r1 with br := br' }) :
    StepS L mk r1 x := by
  obtain ⟨br', ext, res, hfill, hbuf, sb2, hav, hmu⟩ := fill_safe sb1
  cases res with
  | error k =>
    rw [herr br' k hfill]
    exact ⟨Or.inr (Or.inr ⟨_, rfl, rfl, sb2.congr rfl rfl⟩), fun _ => ⟨ext, hbuf⟩⟩
  | ok n =>
    rw [hok br' n hfill]
    obtain ⟨hF, hE⟩ := resumeK_safe ih ip { r1 with br := br' } sb2
      (Nat.le_trans h0 (by rw [hbuf, List.length_append]; exact Nat.le_add_right _ _))
      (by simp only [hbuf]; exact hpre.append ext)
      (Nat.le_trans (Nat.succ_le_succ (hmu n rfl hlt)) hf)
    refine ⟨hF.mono hav, fun hmk => ?_⟩
    obtain ⟨e, he⟩ := hE hmk
    exact ⟨ext ++ e, by rw [he]; simp only [hbuf, List.append_assoc]⟩

theorem resume_safe (L : Nat) (mk : Bool) (f : Nat) : ResumeS L mk f := by
  induction f with
  | zero => intro r ip _ _ _ h; omega
  | succ f ih =>
    intro r ip sb h0 hpre hmu
    by_cases hlt : r.br.buf.length < r.br.cap
    · rw [resume_eof f ip mk r hlt]
      exact .same (checkEnd_safe (r := { r with state := .finished }) (sb.congr rfl rfl) rfl h0 ip
        hpre) (by rw [checkEnd_br])
    · have hfull : r.br.buf.length = r.br.cap := Nat.le_antisymm sb.len_le (Nat.le_of_not_lt hlt)
      have hf : L - r.br.src.cursor + 1 ≤ f := by
        simp only [muS, hlt, if_false] at hmu
        omega
      cases hp : (!mk || decide (r.bp.pos0 = 0)) with
      | true =>
        rcases grow_spec r sb.polwf hfull sb.cap1 with ⟨n, hn, -, hg⟩ | ⟨-, hg⟩
        · exact refill_safe ih ip (growOk r n) _
            (sb.mono rfl sb.polwf (Nat.le_of_lt hn) (Nat.le_refl _) rfl)
            (Nat.lt_of_le_of_lt (Nat.le_of_eq hfull) hn) h0 hpre hf
            (fun br' k h => resume_grow_err f ip mk r _ br' k hlt hp hg h)
            (fun br' m h => resume_grow f ip mk r _ br' m hlt hp hg h)
        · rw [resume_refused f ip mk r _ _ hlt hp hg]
          exact .same (Or.inr (Or.inr ⟨_, rfl, rfl,
            sb.mono rfl sb.polwf (Nat.le_refl _) (Nat.le_refl _) rfl⟩)) rfl
      | false =>
        -- the buffer is shifted: `mk = true` and `pos0 ≠ 0`
        obtain ⟨hmr, hpre'⟩ := makeRoom_spec r ip hpre
        have hpne : r.bp.pos0 ≠ 0 := by
          intro h0'
          simp [h0'] at hp
        have hc1 := sb.cap1
        have hlen : (r.br.consume r.bp.pos0).buf.length = r.br.buf.length - r.bp.pos0 :=
          List.length_drop
        obtain ⟨hF, -⟩ := refill_safe ih ip
          { r with br := r.br.consume r.bp.pos0, bp := shiftBp r.bp ip } (resume (f + 1) ip mk r)
          (sb.mono rfl sb.polwf (Nat.le_refl _) (by rw [hlen]; exact Nat.sub_le _ _) rfl)
          (by rw [hlen]; show _ < r.br.cap; omega) (Nat.zero_le _) hpre' hf
          (fun br' k h => resume_room_err f ip mk r _ br' k hlt hp hmr h)
          (fun br' m h => resume_room f ip mk r _ br' m hlt hp hmr h)
        refine ⟨hF.mono (Nat.le_of_eq ?_), fun hmk => ?_⟩
        · simp only [avail, hlen, shiftBp, Nat.sub_zero]
          rfl
        · rw [hmk] at hp
          simp at hp

/-! ## `next` -/

/-- a pending incomplete search: the line starts found so far are in the buffer -/
def IpOkS (r : Reader) : Prop := ∀ ip, r.incompletePos = some ip → Pre r.br.buf r.bp ip

theorem IpOkS.of_none {r : Reader} (h : r.incompletePos = none) : IpOkS r :=
  fun ip hip => by rw [h] at hip; cases hip

/-- structural invariant of reader states between API calls -/
def SafeSt (L : Nat) (r : Reader) : Prop :=
  SafeB L r ∧
  match r.state with
  | .new => r.bp.pos0 ≤ r.br.buf.length ∧ r.incompletePos = none
  | .positioned => r.bp.pos0 ≤ r.br.buf.length ∧ IpOkS r
  | .parsing => r.bp.pos0 ≤ r.bp.pos1 + 1 ∧ r.bp.pos1 + 1 ≤ r.br.buf.length ∧
      r.incompletePos = none
  | .finished => True

theorem SafeSt.finished {L r} (sb : SafeB L r) (hst : r.state = .finished) : SafeSt L r :=
  ⟨sb, by rw [hst]; trivial⟩

theorem SafeSt.positioned {L r} (sb : SafeB L r) (hst : r.state = .positioned)
    (h0 : r.bp.pos0 ≤ r.br.buf.length) (hip : IpOkS r) : SafeSt L r :=
  ⟨sb, by rw [hst]; exact ⟨h0, hip⟩⟩

theorem SafeSt.extend {L r} {br' : BufRd} {ext : List UInt8} (hs : SafeSt L r)
    (sb' : SafeB L { r with br := br' }) (hbuf : br'.buf = r.br.buf ++ ext) :
    SafeSt L { r with br := br' } := by
  have hlen : r.br.buf.length ≤ br'.buf.length := by
    rw [hbuf, List.length_append]; exact Nat.le_add_right _ _
  obtain ⟨-, h⟩ := hs
  refine ⟨sb', ?_⟩
  cases hst : r.state with
  | new => rw [hst] at h; exact ⟨Nat.le_trans h.1 hlen, h.2⟩
  | positioned =>
    rw [hst] at h
    exact ⟨Nat.le_trans h.1 hlen, fun ip hip => by
      show Pre br'.buf r.bp ip
      rw [hbuf]; exact (h.2 ip hip).append ext⟩
  | parsing => rw [hst] at h; exact ⟨h.1, Nat.le_trans h.2.1 hlen, h.2.2⟩
  | finished => trivial

theorem nextCont_safe (L fuel : Nat) (r : Reader) (sb : SafeB L r)
    (h0 : r.bp.pos0 ≤ r.br.buf.length) (hip : IpOkS r) (hfuel : L + 2 ≤ fuel) :
    FoundS L (avail L r) r.state (nextCont fuel r) := by
  cases hipv : r.incompletePos with
  | some ip =>
    rw [nextCont_pending hipv]
    exact (resume_safe L true fuel r ip sb h0 (hip ip hipv) (muS_lt hfuel r)).1
  | none =>
    simp only [nextCont_fresh hipv, search_eq r hipv]
    rcases si_safe .head sb h0 trivial with
      ⟨bp', ip', hp0, hpre, hres⟩ | ⟨bp', hres, hsh⟩ | ⟨bp', e, hres⟩
    · simp only [hres, wrapS]
      exact (resume_safe L true fuel { r with bp := bp', incompletePos := some ip' } ip'
        (sb.congr rfl rfl) (Nat.le_trans (Nat.le_of_eq hp0) h0) hpre (muS_lt hfuel _)).1.mono
        (Nat.le_of_eq (avail_set_bp r bp' _ hp0))
    · simp only [hres, wrapS]
      exact Or.inl ⟨rfl, hsh⟩
    · simp only [hres, wrapS]
      exact Or.inr (Or.inr ⟨e, rfl, rfl, sb.congr rfl rfl⟩)

def ResOk {α : Type} (res : Res α) : Prop := res ≠ .panic ∧ res ≠ .fuel

theorem resOk_ok {α : Type} (a : α) : ResOk (Out.ok a : Res α) := ⟨nofun, nofun⟩

theorem resOk_err {α : Type} (e : Err) : ResOk (Out.err e : Res α) := ⟨nofun, nofun⟩

def NextS (L : Nat) (x : Reader × Res Bool) : Prop :=
  ResOk x.2 ∧ SafeSt L x.1 ∧ (x.2 = .ok true → (viewRec x.1.br.buf x.1.bp).isSome = true)

theorem FoundS.nextS {L A x} (h : FoundS L A .parsing x) : NextS L x := by
  rcases h with ⟨hr, hs⟩ | ⟨hr, hst, sb⟩ | ⟨e, hr, hst, sb⟩
  · refine ⟨hr ▸ resOk_ok _, ⟨hs.sb, ?_⟩, fun _ => hs.view⟩
    rcases hs.rest with ⟨hst, hip, h1l⟩ | hst
    · rw [hst]
      exact ⟨Nat.le_succ_of_le (Nat.le_of_lt hs.p01), h1l, hip⟩
    · rw [hst]
      trivial
  · exact ⟨hr ▸ resOk_ok _, .finished sb hst, fun h => by rw [hr] at h; cases h⟩
  · exact ⟨hr ▸ resOk_err _, .finished sb hst, fun h => by rw [hr] at h; cases h⟩

theorem setPre_safe {L r} (hs : SafeSt L r) :
    ResOk (setPre r).2 ∧ SafeSt L (setPre r).1 ∧
      ((setPre r).2 = .ok true → (setPre r).1.state = .positioned) := by
  obtain ⟨sb, h⟩ := hs
  unfold setPre
  cases hst : r.state with
  | positioned => exact ⟨resOk_ok _, ⟨sb, h⟩, fun _ => hst⟩
  | finished => exact ⟨resOk_ok _, ⟨sb, h⟩, nofun⟩
  | new =>
    rw [hst] at h
    obtain ⟨br', ext, res, hfill, hbuf, sb2, -⟩ := fill_safe sb
    have h0 : r.bp.pos0 ≤ br'.buf.length := by
      rw [hbuf, List.length_append]; exact Nat.le_trans h.1 (Nat.le_add_right _ _)
    unfold init
    rw [hfill]
    rcases res with k | n
    · exact ⟨resOk_err _, ⟨sb2, by rw [show _ = State.new from hst]; exact ⟨h0, h.2⟩⟩, nofun⟩
    · cases n with
      | zero => exact ⟨resOk_ok _, .finished (sb2.congr rfl rfl) rfl, nofun⟩
      | succ n =>
        exact ⟨resOk_ok _, .positioned (sb2.congr rfl rfl) rfl h0 (.of_none h.2), fun _ => rfl⟩
  | parsing =>
    rw [hst] at h
    rw [incrementRecord_eq r h.1]
    exact ⟨resOk_ok _, .positioned (sb.congr rfl rfl) rfl h.2.1 (.of_none h.2.2), fun _ => rfl⟩

theorem next_safe (L fuel : Nat) (r : Reader) (hs : SafeSt L r) (hfuel : L + 2 ≤ fuel) :
    NextS L (next fuel r) := by
  obtain ⟨h1, h2, h3⟩ := setPre_safe hs
  rw [next_eq]
  generalize setPre r = x at h1 h2 h3
  rcases x with ⟨r', res⟩
  by_cases hr : res = .ok true
  · subst hr
    obtain ⟨sb', h'⟩ := h2
    rw [show r'.state = .positioned from h3 rfl] at h'
    exact (nextCont_safe L fuel { r' with state := .parsing } (sb'.congr rfl rfl) h'.1 h'.2
      hfuel).nextS
  · rw [nextPost_of_ne hr]
    exact ⟨h1, h2, fun h => absurd h hr⟩

/-! ## record-set reads -/

def LoopS (L : Nat) (r : Reader) : Prop :=
  SafeSt L r ∧ (r.state = .positioned ∨ r.state = .finished)

def SetOutS (L : Nat) (res : Reader × RecordSet × Res Bool) : Prop :=
  ResOk res.2.2 ∧ SafeSt L res.1 ∧
    (res.2.2 = .ok true → (viewAll res.1.br.buf res.2.1.positions).isSome = true) ∧
    (res.2.2 ≠ .ok true → res.2.1.positions = [])

theorem SetOutS.ok {L r rs} (hs : SafeSt L r) (hv : (viewAll r.br.buf rs.positions).isSome = true) :
    SetOutS L (r, rs, .ok true) :=
  ⟨resOk_ok _, hs, fun _ => hv, fun h => absurd rfl h⟩

/-- measure of the loop: every iteration consumes a byte or turns a fresh search into a pending
one -/
def lmS (L : Nat) (r : Reader) : Nat :=
  2 * avail L r + (match r.incompletePos with | none => 2 | some _ => 1)

theorem store_safe {L A : Nat} {r : Reader} {rs : RecordSet} (n : Option Nat)
    (hsh : ShownS L A .positioned r) (hv : (viewAll r.br.buf rs.positions).isSome = true) :
    storeStep n r rs = some (stepOver r, { rs with positions := rs.positions ++ [r.bp] },
        decide (n = some (rs.positions.length + 1))) ∧
      LoopS L (stepOver r) ∧
      (viewAll (stepOver r).br.buf (rs.positions ++ [r.bp])).isSome = true ∧
      ((stepOver r).state = .positioned → (stepOver r).incompletePos = none) ∧
      lmS L (stepOver r) ≤ 2 * A := by
  have h01 := hsh.p01
  have h1l := hsh.p1l
  have hinc := incrementRecord_eq r (Nat.le_succ_of_le (Nat.le_of_lt h01))
  obtain ⟨xs, hxs⟩ := Option.isSome_iff_exists.mp hv
  obtain ⟨x, hx⟩ := Option.isSome_iff_exists.mp hsh.view
  have sb := hsh.sb.congr (r' := stepOver r) rfl rfl
  refine ⟨by simp only [storeStep, hinc, List.length_append, List.length_singleton], ?_,
    by rw [show (stepOver r).br = r.br from rfl, viewAll_snoc hxs hx]; rfl, fun hst => ?_, ?_⟩
  · rcases hsh.rest with ⟨hst, hip, h1l⟩ | hst
    · exact ⟨.positioned sb hst h1l (.of_none hip), Or.inl hst⟩
    · exact ⟨.finished sb hst, Or.inr hst⟩
  · rcases hsh.rest with ⟨-, hip, -⟩ | hst'
    · exact hip
    · rw [show (stepOver r).state = r.state from rfl, hst'] at hst
      cases hst
  · have h : avail L (stepOver r) + 1 ≤ avail L r := by
      simp only [avail, stepOver]
      generalize L - r.br.src.cursor = x
      omega
    have := hsh.av
    simp only [lmS]
    split <;> omega

/-- `ih`: the remaining iterations -/
theorem storeK_safe {L A f fuel : Nat} {n : Option Nat} {isNew : Bool} {r : Reader} {rs : RecordSet}
    (ih : ∀ (r : Reader) (rs : RecordSet), LoopS L r →
      (viewAll r.br.buf rs.positions).isSome = true →
      (isNew = true → r.state = .positioned → r.incompletePos ≠ none → rs.positions = []) →
      lmS L r ≤ f → SetOutS L (setLoop f fuel n isNew r rs))
    (hsh : ShownS L A .positioned r) (hv : (viewAll r.br.buf rs.positions).isSome = true)
    (hA : 2 * A ≤ f) : SetOutS L (storeK f fuel n isNew r rs) := by
  obtain ⟨hstore, hl2, hv2, hip2, hm2⟩ := store_safe n hsh hv
  unfold storeK
  rw [hstore]
  cases decide (n = some (rs.positions.length + 1)) with
  | true => exact .ok hl2.1 hv2
  | false => exact ih _ _ hl2 hv2 (fun _ hs hne => absurd (hip2 hs) hne) (Nat.le_trans hm2 hA)

theorem SetOutS.err {L r e} {rs : RecordSet} (sb : SafeB L r) (hst : r.state = .finished) :
    SetOutS L (r, { rs with positions := [] }, .err e) :=
  ⟨resOk_err _, .finished sb hst, nofun, fun _ => rfl⟩

theorem setLoop_safe (L fuel : Nat) (hfuel : L + 2 ≤ fuel) (n : Option Nat) (f : Nat) :
    ∀ (isNew : Bool) (r : Reader) (rs : RecordSet),
      LoopS L r → (viewAll r.br.buf rs.positions).isSome = true →
      (isNew = true → r.state = .positioned → r.incompletePos ≠ none → rs.positions = []) →
      lmS L r ≤ f →
      SetOutS L (setLoop f fuel n isNew r rs) := by
  induction f with
  | zero =>
    intro isNew r rs _ _ _ h
    simp only [lmS] at h
    split at h <;> omega
  | succ f ih =>
    intro isNew r rs ⟨⟨sb, hs⟩, hst⟩ hv hnew hlm
    rw [setLoop_succ]
    rcases hst with hst | hst
    · rw [hst] at hs
      obtain ⟨h0, hip⟩ := hs
      rw [if_neg (by rw [hst]; nofun)]
      cases hipv : r.incompletePos with
      | some ip =>
        dsimp only
        obtain ⟨hF, hE⟩ := resume_safe L isNew fuel { r with incompletePos := none } ip
          (sb.congr rfl rfl) h0 (hip ip hipv) (muS_lt hfuel _)
        -- the positions stored so far: none if the buffer may have been shifted
        have hv1 : (viewAll (resume fuel ip isNew { r with incompletePos := none }).1.br.buf
            rs.positions).isSome = true := by
          cases hnw : isNew with
          | false =>
            obtain ⟨e, he⟩ := hE hnw
            obtain ⟨xs, hxs⟩ := Option.isSome_iff_exists.mp hv
            rw [← hnw, he, viewAll_append e hxs]
            rfl
          | true =>
            rw [hnew hnw hst (by rw [hipv]; nofun)]
            rfl
        generalize resume fuel ip isNew { r with incompletePos := none } = x at hF hv1
        rcases x with ⟨r1, res⟩
        rcases hF with ⟨hr, hsh⟩ | ⟨hr, hst1, sb1⟩ | ⟨e, hr, hst1, sb1⟩ <;> simp only at hr <;>
          subst hr
        · exact storeK_safe (ih isNew) (A := avail L r) (by rw [← hst]; exact hsh) hv1
            (by simp only [lmS, hipv] at hlm; omega)
        · dsimp only
          split
          · exact ⟨resOk_ok _, .finished sb1 hst1, nofun, fun _ => List.isEmpty_iff.mp ‹_›⟩
          · exact .ok (.finished sb1 hst1) hv1
        · exact .err sb1 hst1
      | none =>
        have hA : 2 * avail L r + 1 ≤ f := by simp only [lmS, hipv] at hlm; omega
        dsimp only
        rw [search_eq r hipv]
        rcases si_safe .head sb h0 trivial with
          ⟨bp', ip', hp0, hpre, hres⟩ | ⟨bp', hres, hsh⟩ | ⟨bp', e, hres⟩ <;> rw [hres]
        · have hl1 : LoopS L { r with bp := bp', incompletePos := some ip' } :=
            ⟨.positioned (sb.congr rfl rfl) hst (Nat.le_trans (Nat.le_of_eq hp0) h0)
              (fun ip h => by cases h; exact hpre), Or.inl hst⟩
          have hlm1 : lmS L { r with bp := bp', incompletePos := some ip' } ≤ f := by
            simp only [lmS, avail_set_bp r bp' _ hp0]
            exact hA
          show SetOutS L (afterMiss f fuel n isNew _ rs)
          unfold afterMiss
          split
          · exact ih isNew _ rs hl1 hv (fun _ _ _ => List.isEmpty_iff.mp ‹_›) hlm1
          · split
            · split
              · exact ih false _ rs hl1 hv nofun hlm1
              · exact .ok hl1.1 hv
            · exact .ok hl1.1 hv
        · exact storeK_safe (ih isNew) (by rw [← hst]; exact hsh) hv (Nat.le_of_succ_le hA)
        · exact .err (sb.congr rfl rfl) rfl
    · rw [if_pos hst]
      exact .ok (.finished sb hst) hv

theorem avail_le {L : Nat} {r : Reader} (sb : SafeB L r) : avail L r ≤ L := by
  rcases Nat.lt_or_ge L r.br.src.cursor with h | h
  · rw [avail, sb.beyond h, Nat.zero_sub, Nat.zero_add, Nat.sub_eq_zero_of_le (Nat.le_of_lt h)]
    exact Nat.zero_le _
  · exact Nat.le_trans (Nat.add_le_add_right (Nat.le_trans (Nat.sub_le _ _) sb.len_cur) _)
      (Nat.le_of_eq (Nat.add_sub_of_le h))

def SetResS (L : Nat) (x : Reader × RecordSet × Res Bool) : Prop :=
  ResOk x.2.2 ∧ SafeSt L x.1 ∧ (viewAll x.2.1.buffer x.2.1.positions).isSome = true

theorem SetOutS.fin {L : Nat} {x : Reader × RecordSet × Res Bool} (h : SetOutS L x) :
    SetResS L (setFin x) := by
  rcases x with ⟨r, rs, res⟩
  obtain ⟨h1, h2, h3, h4⟩ := h
  by_cases hr : res = .ok true
  · subst hr
    exact ⟨h1, h2, h3 rfl⟩
  · have : setFin (r, rs, res) = (r, rs, res) := by
      rcases res with (b | _ | _ | _)
      · cases b
        · rfl
        · exact absurd rfl hr
      all_goals rfl
    rw [this]
    exact ⟨h1, h2, by rw [show rs.positions = [] from h4 hr]; rfl⟩

theorem readSet_safe (L fuel : Nat) (r : Reader) (rs : RecordSet) (n : Option Nat)
    (hs : SafeSt L r) (hrs : (viewAll rs.buffer rs.positions).isSome = true)
    (hfuel : 2 * L + 4 ≤ fuel) : SetResS L (readRecordSetExact fuel r rs n) := by
  obtain ⟨h1, h2, h3⟩ := setPre_safe hs
  rw [readSet_eq]
  generalize setPre r = x at h1 h2 h3
  rcases x with ⟨r', res⟩
  by_cases hr : res = .ok true
  · subst hr
    refine (setLoop_safe L fuel (by omega) n fuel true r' _ ⟨h2, Or.inl (h3 rfl)⟩ rfl
      (fun _ _ _ => rfl) ?_).fin
    have := avail_le (r := r') h2.1
    simp only [lmS]
    split <;> omega
  · rw [setPost_of_ne hr]
    exact ⟨h1, h2, hrs⟩

/-! ## `seek` -/

/-- `BufReader::seek`: it fails as scripted for this seek call and leaves everything but the seek
counter alone, or it succeeds, moves the cursor and discards the buffer -/
theorem bufSeek_eq (b : BufRd) (to : Nat) :
    (∃ q, b.src.seekFails.find? (·.1 = b.src.seekCount) = some q ∧
      b.seek to = ({ b with src := { b.src with seekCount := b.src.seekCount + 1 } }, some q.2)) ∨
    (b.src.seekFails.find? (·.1 = b.src.seekCount) = none ∧
      b.seek to = ({ b with src := { b.src with seekCount := b.src.seekCount + 1, cursor := to },
                            buf := [] }, none)) := by
  unfold BufRd.seek Src.seek
  cases hf : b.src.seekFails.find? (·.1 = b.src.seekCount) with
  | none => exact Or.inr ⟨rfl, rfl⟩
  | some q => exact Or.inl ⟨q, rfl, rfl⟩

/-- the reader after a successful seek of the source, before the refill -/
def seekReset (r : Reader) (br1 : BufRd) (toLine toByte : Nat) : Reader :=
  { r with
    br := br1, line := toLine, byte := toByte, incompletePos := none,
    bp := { r.bp with pos0 := 0, pos1 := 0 }, state := .finished }

theorem seek_safe (L : Nat) (r : Reader) (hs : SafeSt L r) (toLine toByte : Nat) :
    ResOk (seek r toLine toByte).2 ∧ SafeSt L (seek r toLine toByte).1 := by
  have sb := hs.1
  unfold seek
  simp only
  split
  · -- inside the buffer: a partly filled buffer is completed first
    rename_i hpos
    have : ∃ br' ext res,
        (if r.br.buf.length < r.br.cap then fillBuf r.br else (r.br, .ok 0)) = (br', res) ∧
        br'.buf = r.br.buf ++ ext ∧ SafeB L { r with br := br' } := by
      split
      · obtain ⟨br', ext, res, h1, h2, h3, -⟩ := fill_safe sb
        exact ⟨br', ext, res, h1, h2, h3⟩
      · exact ⟨r.br, [], .ok 0, rfl, (List.append_nil _).symm, sb⟩
    obtain ⟨br', ext, res, hf, hbuf, sb2⟩ := this
    rw [hf]
    cases res with
    | error k => exact ⟨resOk_err _, hs.extend sb2 hbuf⟩
    | ok m =>
      refine ⟨resOk_ok _, .positioned (sb2.congr rfl rfl) rfl ?_ (.of_none rfl)⟩
      simp only [hbuf, List.length_append]
      omega
  · -- a real seek
    rcases bufSeek_eq r.br toByte with ⟨q, -, hsk⟩ | ⟨-, hsk⟩
    · rw [hsk]
      exact ⟨resOk_err _, hs.extend (sb.mono rfl sb.polwf (Nat.le_refl _) (Nat.le_refl _) rfl)
        (List.append_nil _).symm⟩
    · rw [hsk]
      have sb1 : SafeB L (seekReset r
          { r.br with src := { r.br.src with seekCount := r.br.src.seekCount + 1, cursor := toByte },
                      buf := [] } toLine toByte) :=
        ⟨sb.inpL, sb.polwf, sb.cap1, Nat.zero_le _, Nat.zero_le _, fun _ => rfl⟩
      obtain ⟨br', ext, res, hf, -, sb2, -⟩ := fill_safe sb1
      simp only [show fillBuf { r.br with
        src := { r.br.src with seekCount := r.br.src.seekCount + 1, cursor := toByte }, buf := [] } =
          (br', res) from hf]
      cases res with
      | error k => exact ⟨resOk_err _, .finished (sb2.congr rfl rfl) rfl⟩
      | ok m =>
        exact ⟨resOk_ok _, .positioned (sb2.congr rfl rfl) rfl (Nat.zero_le _) (.of_none rfl)⟩

/-! ## histories -/

/-- the machine state is safe: the reader and the three record sets -/
def SafeM (L : Nat) (m : MSt) : Prop :=
  SafeSt L m.r ∧ ∀ j, (viewAll (m.getSet j).buffer (m.getSet j).positions).isSome = true

def ObsOk (o : ObsH) : Prop := o ≠ .panic ∧ o ≠ .fuel

theorem SafeM.set_r {L m r'} (h : SafeM L m) (hr : SafeSt L r') : SafeM L { m with r := r' } :=
  ⟨hr, fun j => by rw [MSt.getSet_with_r]; exact h.2 j⟩

theorem step_safe (L : Nat) (m : MSt) (hm : SafeM L m) (op : Op) :
    SafeM L (stepM m op).1 ∧ ObsOk (stepM m op).2 := by
  have hfuel : 2 * L + 4 ≤ fuelOf m.r := by
    simp only [fuelOf, opFuel, hm.1.1.inpL]; omega
  have nextCase : SafeM L (stepNext m).1 ∧ ObsOk (stepNext m).2 := by
    obtain ⟨h1, h2, h3⟩ := next_safe L (fuelOf m.r) m.r hm.1 (by omega)
    refine ⟨hm.set_r h2, ?_⟩
    simp only [stepNext]
    rcases hres : (next (fuelOf m.r) m.r).2 with (b | e | _ | _)
    · cases b
      · exact ⟨nofun, nofun⟩
      · obtain ⟨x, hx⟩ := Option.isSome_iff_exists.mp (h3 hres)
        simp only [obsNext, hx]
        exact ⟨nofun, nofun⟩
    · exact ⟨nofun, nofun⟩
    · exact absurd hres h1.1
    · exact absurd hres h1.2
  cases op with
  | next => exact nextCase
  | owned => exact nextCase
  | set j n =>
    obtain ⟨h1, h2, h3⟩ := readSet_safe L (fuelOf m.r) m.r (m.getSet j) n hm.1 (hm.2 j) hfuel
    simp only [stepM, stepSet]
    refine ⟨⟨by rw [MSt.putSet_r]; exact h2, fun i => ?_⟩, ?_⟩
    · rw [MSt.getSet_putSet]
      split
      · exact h3
      · rw [MSt.getSet_with_r]; exact hm.2 i
    · rcases hres : (readRecordSetExact (fuelOf m.r) m.r (m.getSet j) n).2.2 with (b | e | _ | _)
      · cases b <;> exact ⟨nofun, nofun⟩
      · exact ⟨nofun, nofun⟩
      · exact absurd hres h1.1
      · exact absurd hres h1.2
  | dump j =>
    obtain ⟨xs, hxs⟩ := Option.isSome_iff_exists.mp (hm.2 j)
    simp only [stepM, obsDump, hxs]
    exact ⟨hm, nofun, nofun⟩
  | pos => exact ⟨hm, nofun, nofun⟩
  | seekItem i =>
    simp only [stepM, stepSeek]
    split
    · exact ⟨hm, nofun, nofun⟩
    · rename_i it _
      obtain ⟨h1, h2⟩ := seek_safe L m.r hm.1 (itemPos it).1 (itemPos it).2
      refine ⟨hm.set_r h2, ?_⟩
      rcases hres : (seek m.r (itemPos it).1 (itemPos it).2).2 with (b | e | _ | _)
      · exact ⟨nofun, nofun⟩
      · exact ⟨nofun, nofun⟩
      · exact absurd hres h1.1
      · exact absurd hres h1.2

theorem safeM_mkM (inp : List UInt8) (cap : Nat) (hcap : 1 ≤ cap) (pol : Pol) (hwf : PolWf1 pol)
    (script : List ReadEv) (chunk : Nat) (seekFails : List (Nat × IoKind)) :
    SafeM inp.length (mkM inp cap pol script chunk seekFails) := by
  refine ⟨⟨⟨rfl, hwf, hcap, Nat.zero_le _, Nat.zero_le _, fun _ => rfl⟩, ⟨Nat.zero_le _, rfl⟩⟩,
    fun j => ?_⟩
  match j with
  | 0 => rfl
  | 1 => rfl
  | _ + 2 => rfl

theorem run_safe (L : Nat) : ∀ (ops : List Op) (m : MSt), SafeM L m →
    ∀ o ∈ runM m ops, o ≠ .panic ∧ o ≠ .fuel := by
  intro ops
  induction ops with
  | nil => intro m _ o ho; cases ho
  | cons op ops ih =>
    intro m hm o ho
    obtain ⟨h1, h2⟩ := step_safe L m hm op
    simp only [runM, List.mem_cons] at ho
    rcases ho with rfl | ho
    · exact h2
    · exact ih _ h1 o ho

/-- Totality: for every input, capacity ≥ 1, policy that answers more than the capacity
it is passed or refuses, **every** read script (failing reads included), chunking, failing
seeks, and every history of API calls: no observation is a panic or "out of fuel". -/
theorem fastq_history_total (inp : List UInt8) (cap : Nat) (hcap : 1 ≤ cap) (pol : Pol)
    (hpol : PolWf pol) (script : List ReadEv) (chunk : Nat) (seekFails : List (Nat × IoKind))
    (ops : List Op) :
    ∀ o ∈ runM (mkM inp cap pol script chunk seekFails) ops, o ≠ .panic ∧ o ≠ .fuel :=
  run_safe inp.length ops _ (safeM_mkM inp cap hcap pol (PolWf.wf1 hpol) script chunk seekFails)

end SeqIo.Fastq
