import SeqIoModel.Proofs.FastaStream
/-!
# The raw sequence and the sequence lines of a FASTA record (property C13)

"The raw sequence (`RefRecord::seq`) differs from the sequence lines (`seq_lines()`) only by
line terminators."
A record is a buffer with offsets `p₀ < p₁ < … < pₙ`: `p₀` ends the header line, the others are
the line ends of the sequence.  With `rawLines` = the untrimmed pieces between them, `seq_lines()`
is `rawLines` with one final CR removed from each, and `seq()` is `rawLines` joined by LF with one
final CR removed.  `OffsetsOk`, `AllLF` hold for the offsets the record scan produces.
-/
open SeqIo SeqIo.WriteProofs

namespace SeqIo.Fasta.Raw

/-! ## definitions -/

/-- pieces separated (not terminated) by LF -/
def joinLF : List (List UInt8) → List UInt8
  | [] => []
  | [l] => l
  | l :: l' :: ls => l ++ LF :: joinLF (l' :: ls)

def rawLinesFrom (buf : List UInt8) : Nat → List Nat → List (List UInt8)
  | _, [] => []
  | s, e :: rest => (buf.take e).drop (s + 1) :: rawLinesFrom buf e rest

/-- the untrimmed sequence lines of a record: `buf[pᵢ + 1 .. pᵢ₊₁]` for consecutive offsets -/
def rawLines (buf : List UInt8) (bp : BufPos) : List (List UInt8) :=
  match bp.seqPos with
  | [] => []
  | p0 :: ps => rawLinesFrom buf p0 ps

/-- what the record scan guarantees about the stored offsets -/
structure OffsetsOk (buf : List UInt8) (ps : List Nat) : Prop where
  incr : ps.Pairwise (· < ·)
  bound : ∀ p ∈ ps, p ≤ buf.length
  lf : ∀ p ∈ ps.dropLast, buf[p]? = some LF

def AllLF (buf : List UInt8) (ps : List Nat) : Prop :=
  ∀ p0 pn q, ps.head? = some p0 → ps.getLast? = some pn → p0 < q → q < pn →
    buf[q]? = some LF → q ∈ ps

def notTerm (b : UInt8) : Bool := decide (b ≠ LF ∧ b ≠ CR)

/-! ## list facts -/

theorem slice_ok (buf : List UInt8) (a b : Nat) (hab : a ≤ b) (hb : b ≤ buf.length) :
    slice buf a b = some ((buf.take b).drop a) := by
  simp [slice, hab, hb]

theorem take_drop_split (buf : List UInt8) (a e L : Nat) (c : UInt8) (hae : a ≤ e) (heL : e < L)
    (hc : buf[e]? = some c) :
    (buf.take L).drop a = (buf.take e).drop a ++ c :: (buf.take L).drop (e + 1) := by
  obtain ⟨he, rfl⟩ := List.getElem?_eq_some_iff.mp hc
  have hT : e < (buf.take L).length := by rw [List.length_take]; omega
  have h1 : buf.take e = (buf.take L).take e := by
    rw [List.take_take, Nat.min_eq_left (Nat.le_of_lt heL)]
  rw [h1]
  conv => lhs; rw [← List.take_append_drop e (buf.take L)]
  rw [List.drop_append_of_le_length (by rw [List.length_take]; omega),
    List.drop_eq_getElem_cons hT, List.getElem_take]

def lastFrom : Nat → List Nat → Nat
  | s, [] => s
  | _, e :: rest => lastFrom e rest

theorem getLast?_eq_lastFrom : ∀ (s : Nat) (ps : List Nat), (s :: ps).getLast? = some (lastFrom s ps)
  | s, [] => rfl
  | s, e :: rest => by
    rw [List.getLast?_cons_cons]
    exact getLast?_eq_lastFrom e rest

theorem lastFrom_mem : ∀ (s : Nat) (ps : List Nat), ps ≠ [] → lastFrom s ps ∈ ps
  | _, [], h => absurd rfl h
  | _, [e], _ => by simp [lastFrom]
  | s, e :: e' :: rest, _ => by
    have := lastFrom_mem e (e' :: rest) (by simp)
    simp only [lastFrom] at this ⊢
    exact List.mem_cons_of_mem _ this

/-! ## the lines -/

theorem segsFrom_raw (buf : List UInt8) : ∀ (s : Nat) (ps : List Nat),
    (s :: ps).Pairwise (· < ·) → (∀ p ∈ ps, p ≤ buf.length) →
    segsFrom buf (s + 1) ps = ((rawLinesFrom buf s ps).map trimCr).map some
  | _, [], _, _ => rfl
  | s, e :: rest, hp, hb => by
    have hse : s < e := (List.pairwise_cons.mp hp).1 e (by simp)
    have hel : e ≤ buf.length := hb e (by simp)
    simp only [segsFrom, rawLinesFrom, List.map_cons]
    rw [slice_ok buf (s + 1) e hse hel,
      segsFrom_raw buf e rest (List.pairwise_cons.mp hp).2 (fun p hp' => hb p (by simp [hp']))]
    rfl

/-- `seq_lines()` yields the untrimmed pieces, each with one final CR removed (no slice panics) -/
theorem seqLines_eq_rawLines (buf : List UInt8) (bp : BufPos) (h : OffsetsOk buf bp.seqPos) :
    allSome (seqLines buf bp) = some ((rawLines buf bp).map trimCr) := by
  rcases bp with ⟨st, ps⟩
  cases ps with
  | nil => rfl
  | cons p0 ps =>
    rw [seqLines_cons, segsFrom_raw buf p0 ps h.incr (fun p hp => h.bound p (by simp [hp])),
      allSome_map_some]
    rfl

/-! ## the raw sequence -/

theorem raw_join (buf : List UInt8) : ∀ (s : Nat) (ps : List Nat),
    (s :: ps).Pairwise (· < ·) → (∀ p ∈ ps.dropLast, buf[p]? = some LF) →
    (buf.take (lastFrom s ps)).drop (s + 1) = joinLF (rawLinesFrom buf s ps)
  | s, [], _, _ => by simp [lastFrom, rawLinesFrom, joinLF]; omega
  | s, [e], _, _ => by simp [lastFrom, rawLinesFrom, joinLF]
  | s, e :: e' :: rest, hp, hlf => by
    have hse : s < e := (List.pairwise_cons.mp hp).1 e (by simp)
    have hp' := (List.pairwise_cons.mp hp).2
    have hlast : e < lastFrom e (e' :: rest) :=
      (List.pairwise_cons.mp hp').1 _ (lastFrom_mem e (e' :: rest) (by simp))
    have he : buf[e]? = some LF := hlf e (by simp)
    have ih := raw_join buf e (e' :: rest) hp' (fun p hp'' => hlf p (by
      simp only [List.dropLast_cons_cons, List.mem_cons] at hp'' ⊢
      exact Or.inr hp''))
    show (buf.take (lastFrom e (e' :: rest))).drop (s + 1) = _
    rw [take_drop_split buf (s + 1) e _ LF hse hlast he, ih]
    rfl

/-- `seq()` is the untrimmed pieces joined by LF, with one final CR removed (no slice panics) -/
theorem seqRaw_eq_join (buf : List UInt8) (bp : BufPos) (h : OffsetsOk buf bp.seqPos) :
    seqRaw buf bp = some (trimCr (joinLF (rawLines buf bp))) := by
  rcases bp with ⟨st, ps⟩
  cases ps with
  | nil => rfl
  | cons p0 ps =>
    cases ps with
    | nil => rfl
    | cons p1 ps =>
      have hlast_mem := lastFrom_mem p0 (p1 :: ps) (by simp)
      have hlt : p0 < lastFrom p0 (p1 :: ps) := (List.pairwise_cons.mp h.incr).1 _ hlast_mem
      have hle : lastFrom p0 (p1 :: ps) ≤ buf.length := h.bound _ (List.mem_cons_of_mem _ hlast_mem)
      have hj := raw_join buf p0 (p1 :: ps) h.incr (fun p hp => h.lf p (by
        simp only [List.dropLast_cons_cons, List.mem_cons] at hp ⊢
        exact Or.inr hp))
      unfold seqRaw
      simp only [List.length_cons, gt_iff_lt, Nat.lt_add_left_iff_pos, Nat.zero_lt_succ, if_true,
        List.head?_cons, getLast?_eq_lastFrom]
      rw [slice_ok buf (p0 + 1) _ hlt hle, hj]
      rfl

/-- **C13, structural form.** -/
theorem raw_eq_join (buf : List UInt8) (bp : BufPos) (h : OffsetsOk buf bp.seqPos) :
    ∃ rawLines : List (List UInt8),
      allSome (seqLines buf bp) = some (rawLines.map trimCr) ∧
      seqRaw buf bp = some (trimCr (joinLF rawLines)) :=
  ⟨rawLines buf bp, seqLines_eq_rawLines buf bp h, seqRaw_eq_join buf bp h⟩

/-! ## deleting the line terminators -/

theorem filter_trimCr (l : List UInt8) : (trimCr l).filter notTerm = l.filter notTerm := by
  rcases trimCr_cases l with h | h
  · rw [h]
  · conv => rhs; rw [h]
    simp [notTerm]

theorem filter_joinLF : ∀ ls : List (List UInt8),
    (joinLF ls).filter notTerm = ls.flatten.filter notTerm
  | [] => rfl
  | [l] => by simp [joinLF]
  | l :: l' :: ls => by
    have ih := filter_joinLF (l' :: ls)
    have hLF : notTerm LF = false := by simp [notTerm]
    rw [joinLF, List.filter_append, List.filter_cons, hLF, ih]
    simp

theorem filter_map_trimCr : ∀ ls : List (List UInt8),
    ((ls.map trimCr).flatten).filter notTerm = ls.flatten.filter notTerm
  | [] => rfl
  | l :: ls => by
    simp only [List.map_cons, List.flatten_cons, List.filter_append, filter_trimCr,
      filter_map_trimCr ls]

theorem filter_raw (rl : List (List UInt8)) :
    (trimCr (joinLF rl)).filter notTerm = (rl.map trimCr).flatten.filter notTerm := by
  rw [filter_trimCr, filter_joinLF]
  exact (filter_map_trimCr _).symm

/-- **C13, byte form.**  After deleting every LF and CR byte, the raw sequence and the
concatenated sequence lines are the same bytes. -/
theorem raw_filter_eq (buf : List UInt8) (bp : BufPos) (h : OffsetsOk buf bp.seqPos)
    (raw : List UInt8) (lines : List (List UInt8))
    (hr : seqRaw buf bp = some raw) (hl : allSome (seqLines buf bp) = some lines) :
    raw.filter (fun b => decide (b ≠ LF ∧ b ≠ CR)) =
      lines.flatten.filter (fun b => decide (b ≠ LF ∧ b ≠ CR)) := by
  rw [seqRaw_eq_join buf bp h] at hr
  rw [seqLines_eq_rawLines buf bp h] at hl
  injection hr with hr
  injection hl with hl
  subst hr hl
  exact filter_raw _

theorem raw_filter_eq_owned (buf : List UInt8) (bp : BufPos) (h : OffsetsOk buf bp.seqPos)
    (raw owned : List UInt8) (hr : seqRaw buf bp = some raw) (ho : ownedSeq buf bp = some owned) :
    raw.filter (fun b => decide (b ≠ LF ∧ b ≠ CR)) = owned.filter (fun b => decide (b ≠ LF ∧ b ≠ CR)) := by
  unfold ownedSeq at ho
  cases hl : allSome (seqLines buf bp) with
  | none => rw [hl] at ho; cases ho
  | some lines =>
    rw [hl] at ho
    injection ho with ho
    subst ho
    exact raw_filter_eq buf bp h raw lines hr hl

/-! ## no line contains an LF -/

theorem rawLinesFrom_noLF (buf : List UInt8) : ∀ (s : Nat) (ps : List Nat),
    (s :: ps).Pairwise (· < ·) →
    (∀ q, s < q → q < lastFrom s ps → buf[q]? = some LF → q ∈ s :: ps) →
    ∀ l ∈ rawLinesFrom buf s ps, LF ∉ l
  | _, [], _, _ => by simp [rawLinesFrom]
  | s, e :: rest, hp, hall => by
    have hp' := (List.pairwise_cons.mp hp).2
    have hse : s < e := (List.pairwise_cons.mp hp).1 e (by simp)
    have hel : e ≤ lastFrom e rest := by
      cases rest with
      | nil => exact Nat.le_refl _
      | cons e' rest' =>
        exact Nat.le_of_lt ((List.pairwise_cons.mp hp').1 _ (lastFrom_mem e _ (by simp)))
    intro l hl
    simp only [rawLinesFrom, List.mem_cons] at hl
    rcases hl with hl | hl
    · subst hl
      intro hmem
      obtain ⟨idx, hidx⟩ := List.mem_iff_getElem?.mp hmem
      rw [List.getElem?_drop, List.getElem?_take] at hidx
      split at hidx
      · rename_i hlt
        have hq := hall (s + 1 + idx) (by omega) (by show _ < lastFrom e rest; omega) hidx
        simp only [List.mem_cons] at hq
        rcases hq with hq | hq | hq
        · omega
        · omega
        · have := (List.pairwise_cons.mp hp').1 _ hq
          omega
      · cases hidx
    · refine rawLinesFrom_noLF buf e rest hp' ?_ l hl
      intro q hq1 hq2 hq3
      have := hall q (by omega) hq2 hq3
      simp only [List.mem_cons] at this ⊢
      rcases this with h | h
      · omega
      · exact h

theorem rawLines_noLF (buf : List UInt8) (bp : BufPos) (h : OffsetsOk buf bp.seqPos)
    (hall : AllLF buf bp.seqPos) : ∀ l ∈ rawLines buf bp, LF ∉ l := by
  rcases bp with ⟨st, ps⟩
  cases ps with
  | nil => simp [rawLines]
  | cons p0 ps =>
    exact rawLinesFrom_noLF buf p0 ps h.incr
      (fun q h1 h2 h3 => hall p0 (lastFrom p0 ps) q rfl (getLast?_eq_lastFrom p0 ps) h1 h2 h3)

theorem joinLF_eq : ∀ ls : List (List UInt8), joinLF ls = Unchanged.joinLF ls
  | [] => rfl
  | [_] => rfl
  | l :: l' :: ls => by rw [joinLF, Unchanged.joinLF, joinLF_eq (l' :: ls)]

/-! ## the three forms from one description -/

/-- `lines` and `raw` come from the same LF-free untrimmed pieces -/
def RawForm (lines : List (List UInt8)) (raw : List UInt8) : Prop :=
  ∃ rawLines : List (List UInt8),
    lines = rawLines.map trimCr ∧ raw = trimCr (joinLF rawLines) ∧ ∀ l ∈ rawLines, LF ∉ l

theorem RawForm.filter_eq {lines : List (List UInt8)} {raw : List UInt8} (h : RawForm lines raw) :
    raw.filter (fun b => decide (b ≠ LF ∧ b ≠ CR)) =
      lines.flatten.filter (fun b => decide (b ≠ LF ∧ b ≠ CR)) := by
  obtain ⟨rl, h1, h2, _⟩ := h
  subst h1 h2
  exact filter_raw rl

/-- if there is at least one sequence line: the lines are the LF-separated pieces of the
untrimmed raw sequence `u`, each with one final CR removed; the raw sequence is `u` with one final
CR removed -/
theorem RawForm.split_eq {lines : List (List UInt8)} {raw : List UInt8} (h : RawForm lines raw)
    (hne : lines ≠ []) :
    ∃ u : List UInt8, raw = trimCr u ∧ lines = (splitLF u).map trimCr := by
  obtain ⟨rl, h1, h2, h3⟩ := h
  have hrl : rl ≠ [] := by
    intro e; subst e; exact hne h1
  exact ⟨joinLF rl, h2, by rw [joinLF_eq, Unchanged.splitLF_joinLF rl hrl h3]; exact h1⟩

theorem RawForm.lines_noLF {lines : List (List UInt8)} {raw : List UInt8} (h : RawForm lines raw) :
    ∀ l ∈ lines, LF ∉ l := by
  obtain ⟨rl, h1, _, h3⟩ := h
  subst h1
  intro l hl
  obtain ⟨l0, hl0, rfl⟩ := List.mem_map.mp hl
  exact fun hmem => h3 l0 hl0 (mem_of_mem_trimCr hmem)

/-- **C13 for offsets that are all the LFs of their range** -/
theorem rawForm_of_offsets (buf : List UInt8) (bp : BufPos) (h : OffsetsOk buf bp.seqPos)
    (hall : AllLF buf bp.seqPos) :
    ∃ lines raw, allSome (seqLines buf bp) = some lines ∧ seqRaw buf bp = some raw ∧
      RawForm lines raw :=
  ⟨_, _, seqLines_eq_rawLines buf bp h, seqRaw_eq_join buf bp h,
    rawLines buf bp, rfl, rfl, rawLines_noLF buf bp h hall⟩

/-- **C13, split form.** -/
theorem lines_eq_split (buf : List UInt8) (bp : BufPos) (h : OffsetsOk buf bp.seqPos)
    (hall : AllLF buf bp.seqPos) (hlen : 1 < bp.seqPos.length) :
    ∃ u : List UInt8, seqRaw buf bp = some (trimCr u) ∧
      allSome (seqLines buf bp) = some ((splitLF u).map trimCr) := by
  obtain ⟨lines, raw, h1, h2, hf⟩ := rawForm_of_offsets buf bp h hall
  have hne : lines ≠ [] := by
    rw [seqLines_eq_rawLines buf bp h] at h1
    injection h1 with h1
    subst h1
    rcases bp with ⟨st, ps⟩
    match ps, hlen with
    | p0 :: p1 :: ps, _ => simp [rawLines, rawLinesFrom]
  obtain ⟨u, hu1, hu2⟩ := hf.split_eq hne
  exact ⟨u, by rw [h2, hu1], by rw [h1, hu2]⟩

/-! ## the offsets the record scan produces -/

/-- the offsets of the ends of the lines `L`, the first of which starts at offset `i` -/
def lineEnds : Nat → List (List UInt8) → List Nat
  | _, [] => []
  | i, l :: L => (i + l.length) :: lineEnds (i + l.length + 1) L

/-- the scan of a record, line by line: the text starts with the record's lines `L`, joined by LF
and followed by nothing or by an LF, and the offsets stored are the ends of these lines -/
theorem scan_lineEnds (t : List UInt8) : ∀ i : Nat, ∃ (L : List (List UInt8)) (rest : List UInt8),
    L ≠ [] ∧ (∀ l ∈ L, LF ∉ l) ∧ t = Unchanged.joinLF L ++ rest ∧ (rest = [] ∨ ∃ r, rest = LF :: r) ∧
    finalPos (scan t i []) = lineEnds i L := by
  induction t using line_induction with
  | h0 a ha =>
    intro i
    exact ⟨[a], [], by simp, by simpa using ha, by simp [Unchanged.joinLF], Or.inl rfl,
      by simp [scan_noLF a ha, finalPos, lineEnds]⟩
  | h1 a t' ha ih =>
    intro i
    by_cases hnext : ∃ c r, t' = c :: r ∧ c ≠ GT
    · obtain ⟨c, r, rfl, hc⟩ := hnext
      obtain ⟨L, rest, hne, hL, ht, hrest, hfin⟩ := ih (i + a.length + 1)
      refine ⟨a :: L, rest, by simp, ?_, ?_, hrest, ?_⟩
      · intro l hl
        rcases List.mem_cons.mp hl with rfl | hl
        · exact ha
        · exact hL l hl
      · rw [Unchanged.joinLF_cons_ne a L hne, List.append_assoc, List.cons_append, ← ht]
      · rw [scan_line_next a ha c hc r i [], scan_acc, List.nil_append, finalPos_acc, hfin]
        rfl
    · refine ⟨[a], LF :: t', by simp, by simpa using ha, by simp [Unchanged.joinLF],
        Or.inr ⟨_, rfl⟩, ?_⟩
      cases t' with
      | nil => simp [scan_line_end a ha, finalPos, lineEnds]
      | cons c r =>
        obtain rfl : c = GT := Classical.not_not.mp fun hc => hnext ⟨c, r, rfl, hc⟩
        simp [scan_line_gt a ha, finalPos, lineEnds]

theorem length_lineEnds : ∀ (L : List (List UInt8)) (i : Nat), (lineEnds i L).length = L.length
  | [], _ => rfl
  | l :: L, i => by rw [lineEnds, List.length_cons, length_lineEnds L, List.length_cons]

theorem getLast?_lineEnds : ∀ (L : List (List UInt8)) (i : Nat), L ≠ [] →
    (lineEnds i L).getLast? = some (i + (Unchanged.joinLF L).length)
  | [], _, h => absurd rfl h
  | [l], i, _ => rfl
  | l :: l' :: L, i, _ => by
    have ih := getLast?_lineEnds (l' :: L) (i + l.length + 1) (by simp)
    simp only [lineEnds, List.getLast?_cons_cons] at ih ⊢
    rw [ih, Unchanged.joinLF]
    simp only [List.length_append, List.length_cons]
    congr 1
    omega

theorem mem_lineEnds (L : List (List UInt8)) (hL : ∀ l ∈ L, LF ∉ l) : ∀ i q : Nat,
    q ∈ lineEnds i L ↔ i ≤ q ∧ (unlines L)[q - i]? = some LF := by
  induction L with
  | nil => intro i q; simp [lineEnds, unlines]
  | cons l L ih =>
    intro i q
    have hl : ∀ k, l[k]? ≠ some LF := fun k e => hL l (by simp) (List.mem_of_getElem? e)
    rw [lineEnds, List.mem_cons, ih (fun x hx => hL x (by simp [hx])), unlines_cons,
      List.getElem?_append]
    split
    · rename_i hlt
      simp only [hl, and_false, iff_false]
      omega
    · rename_i hge
      by_cases he : q = i + l.length
      · subst he
        simp
      · by_cases hq : i + l.length + 1 ≤ q
        · rw [show q - i - l.length = (q - (i + l.length + 1)) + 1 by omega,
            List.getElem?_cons_succ]
          simp only [he, false_or, hq, true_and, iff_and_self]
          omega
        · simp only [he, hq, false_and, or_false, false_iff]
          omega

theorem pairwise_lineEnds (L : List (List UInt8)) (hL : ∀ l ∈ L, LF ∉ l) : ∀ i : Nat,
    (lineEnds i L).Pairwise (· < ·) := by
  induction L with
  | nil => intro i; exact List.Pairwise.nil
  | cons l L ih =>
    intro i
    have hL' : ∀ x ∈ L, LF ∉ x := fun x hx => hL x (by simp [hx])
    refine List.pairwise_cons.mpr ⟨fun p hp => ?_, ih hL' _⟩
    have := ((mem_lineEnds L hL' _ p).mp hp).1
    omega

/-- in a text that from offset `s` on consists of the lines `L`, the line ends are the LFs before
the end of the last line, and that end -/
theorem mem_lineEnds_drop {inp : List UInt8} {s : Nat} {L : List (List UInt8)} {rest : List UInt8}
    (ht : inp.drop s = Unchanged.joinLF L ++ rest) (hne : L ≠ []) (hL : ∀ l ∈ L, LF ∉ l) (q : Nat) :
    q ∈ lineEnds s L ↔ s ≤ q ∧ (q < s + (Unchanged.joinLF L).length ∧ inp[q]? = some LF ∨
      q = s + (Unchanged.joinLF L).length) := by
  rw [mem_lineEnds L hL, ← Unchanged.joinLF_add_LF L hne]
  refine and_congr_right fun hq => ?_
  have e : inp[q]? = (Unchanged.joinLF L ++ rest)[q - s]? := by
    rw [← ht, List.getElem?_drop]
    congr 1
    omega
  rw [e, List.getElem?_append, List.getElem?_append]
  split
  · rename_i h
    have h1 : q < s + (Unchanged.joinLF L).length := by omega
    have h2 : q ≠ s + (Unchanged.joinLF L).length := by omega
    simp only [h1, h2, true_and, or_false]
  · rename_i h
    have h1 : ¬ q < s + (Unchanged.joinLF L).length := by omega
    simp only [h1, false_and, false_or, List.getElem?_singleton]
    split <;> simp <;> omega

theorem scan_offsetsOk (inp : List UInt8) (s : Nat) (hs : s ≤ inp.length) :
    OffsetsOk inp (finalPos (scan (inp.drop s) s [])) := by
  obtain ⟨L, rest, hne, hL, ht, -, hfin⟩ := scan_lineEnds (inp.drop s) s
  rw [hfin]
  have hmem := mem_lineEnds_drop ht hne hL
  have hpw := pairwise_lineEnds L hL s
  have hlen : s + (Unchanged.joinLF L).length ≤ inp.length := by
    have := congrArg List.length ht
    simp only [List.length_drop, List.length_append] at this
    omega
  refine ⟨hpw, fun p hp => ?_, fun p hp => ?_⟩
  · rcases ((hmem p).mp hp).2 with h | h <;> omega
  · obtain ⟨ys, hys⟩ := List.getLast?_eq_some_iff.mp (getLast?_lineEnds L s hne)
    rw [hys] at hp hpw
    rw [List.dropLast_concat] at hp
    have hlt := (List.pairwise_append.mp hpw).2.2 p hp _ (List.mem_singleton_self _)
    rcases ((hmem p).mp (by rw [hys]; exact List.mem_append_left _ hp)).2 with h | h
    · exact h.2
    · omega

theorem scan_allLF (inp : List UInt8) (s : Nat) :
    AllLF inp (finalPos (scan (inp.drop s) s [])) := by
  obtain ⟨L, rest, hne, hL, ht, -, hfin⟩ := scan_lineEnds (inp.drop s) s
  rw [hfin]
  intro p0 pn q h0 hn hq1 hq2 hq3
  rw [getLast?_lineEnds L s hne] at hn
  cases hn
  have hp0 := ((mem_lineEnds L hL s p0).mp (List.mem_of_mem_head? h0)).1
  exact (mem_lineEnds_drop ht hne hL q).mpr ⟨by omega, Or.inl ⟨hq2, hq3⟩⟩

/-! ## the record a `next` call returns -/

theorem seqRaw_shift (inp buf ext : List UInt8) (b : Nat) (hb : b ≤ inp.length)
    (hw : inp.drop b = buf ++ ext) (bp : BufPos) (hp : ∀ p ∈ bp.seqPos, p ≤ buf.length) :
    seqRaw buf bp = seqRaw inp ⟨bp.start + b, bp.seqPos.map (· + b)⟩ := by
  rcases bp with ⟨st, ps⟩
  unfold seqRaw
  simp only [List.length_map, List.head?_map, List.getLast?_map]
  split
  · cases h1 : ps.head? with
    | none => rfl
    | some f =>
      cases h2 : ps.getLast? with
      | none => rfl
      | some l =>
        simp only [Option.map_some]
        rw [slice_shift inp buf ext b hb hw (f + 1) l (hp l (List.mem_of_mem_getLast? h2))]
        have e : f + 1 + b = f + b + 1 := by omega
        rw [e]
  · rfl

/-- the record just returned starts at absolute offset `s` -/
structure RecAt (inp : List UInt8) (r : Reader) (s : Nat) : Prop where
  win : Win inp r
  done : RecDone inp r s
  byte : r.byte = s
  gt : (inp.drop s).head? = some GT

theorem RecAt.le {inp : List UInt8} {r : Reader} {s : Nat} (h : RecAt inp r s) : s ≤ inp.length := by
  refine Nat.le_of_not_lt fun hlt => ?_
  have := h.gt
  rw [List.drop_eq_nil_of_le (Nat.le_of_lt hlt)] at this
  cases this

theorem next_recAt {inp : List UInt8} {r : Reader} {rest : List Obs} {fuel : Nat}
    (h : InvR inp r rest) (hfuel : inp.length < fuel) (hok : (next fuel r).2 = .ok true) :
    ∃ s, RecAt inp (next fuel r).1 s := by
  obtain ⟨r', res, new, hn, -, -, -, hat⟩ := next_step h hfuel
  rw [hn] at hok ⊢
  obtain ⟨s, hw, hd, hb, hgt⟩ := hat hok
  exact ⟨s, hw, hd, hb, hgt⟩

theorem RecAt.views {inp : List UInt8} {r : Reader} {s : Nat} (h : RecAt inp r s) :
    seqLines r.br.buf r.bp = seqLines inp ⟨s, finalPos (scan (inp.drop s) s [])⟩ ∧
    seqRaw r.br.buf r.bp = seqRaw inp ⟨s, finalPos (scan (inp.drop s) s [])⟩ := by
  have hbp : (⟨r.bp.start + base r, r.bp.seqPos.map (· + base r)⟩ : BufPos) =
      ⟨s, finalPos (scan (inp.drop s) s [])⟩ := by
    rw [h.done.start_eq, h.done.fin]
  rw [seqLines_shift inp r.br.buf _ (base r) h.win.b.base_le h.win.b.win r.bp h.done.pos_le,
    seqRaw_shift inp r.br.buf _ (base r) h.win.b.base_le h.win.b.win r.bp h.done.pos_le, hbp]
  exact ⟨rfl, rfl⟩

theorem rawForm_of_next {inp : List UInt8} {r r' : Reader} {rest : List Obs} {fuel : Nat}
    (h : InvR inp r rest) (hfuel : inp.length < fuel) (hn : next fuel r = (r', .ok true)) :
    ∃ lines raw, allSome (seqLines r'.br.buf r'.bp) = some lines ∧
      seqRaw r'.br.buf r'.bp = some raw ∧ RawForm lines raw := by
  obtain ⟨s, hat⟩ := next_recAt h hfuel (by rw [hn])
  rw [hn] at hat
  rw [hat.views.1, hat.views.2]
  exact rawForm_of_offsets inp _ (scan_offsetsOk inp s hat.le) (scan_allLF inp s)

/-- **C13 for the reader.**  From any state satisfying the invariant of `Proofs/FastaStream.lean`
(every state reached from a fresh reader by `next` calls), if `next` returns a record, then
`seq_lines()` and `seq()` of that record do not panic and differ only by line terminators. -/
theorem next_raw_eq_join {inp : List UInt8} {r r' : Reader} {rest : List Obs} {fuel : Nat}
    (h : InvR inp r rest) (hfuel : inp.length < fuel) (hn : next fuel r = (r', .ok true)) :
    ∃ rawLines : List (List UInt8),
      allSome (seqLines r'.br.buf r'.bp) = some (rawLines.map trimCr) ∧
      seqRaw r'.br.buf r'.bp = some (trimCr (joinLF rawLines)) ∧
      ∀ l ∈ rawLines, LF ∉ l := by
  obtain ⟨lines, raw, h1, h2, rl, h3, h4, h5⟩ := rawForm_of_next h hfuel hn
  exact ⟨rl, by rw [h1, h3], by rw [h2, h4], h5⟩

/-- the byte form for the reader -/
theorem next_raw_filter_eq {inp : List UInt8} {r r' : Reader} {rest : List Obs} {fuel : Nat}
    (h : InvR inp r rest) (hfuel : inp.length < fuel) (hn : next fuel r = (r', .ok true)) :
    ∃ raw owned, seqRaw r'.br.buf r'.bp = some raw ∧ ownedSeq r'.br.buf r'.bp = some owned ∧
      raw.filter (fun b => decide (b ≠ LF ∧ b ≠ CR)) = owned.filter (fun b => decide (b ≠ LF ∧ b ≠ CR)) := by
  obtain ⟨lines, raw, h1, h2, hf⟩ := rawForm_of_next h hfuel hn
  exact ⟨raw, lines.flatten, h2, by simp [ownedSeq, h1], hf.filter_eq⟩

/-- the split form for the reader -/
theorem next_lines_eq_split {inp : List UInt8} {r r' : Reader} {rest : List Obs} {fuel : Nat}
    (h : InvR inp r rest) (hfuel : inp.length < fuel) (hn : next fuel r = (r', .ok true))
    (hlen : 1 < r'.bp.seqPos.length) :
    ∃ u : List UInt8, seqRaw r'.br.buf r'.bp = some (trimCr u) ∧
      allSome (seqLines r'.br.buf r'.bp) = some ((splitLF u).map trimCr) := by
  obtain ⟨s, hat⟩ := next_recAt h hfuel (by rw [hn])
  rw [hn] at hat
  rw [hat.views.1, hat.views.2]
  refine lines_eq_split inp _ (scan_offsetsOk inp s hat.le) (scan_allLF inp s) ?_
  rw [← hat.done.fin, List.length_map]
  exact hlen

/-- an instance: `>a⏎A␍⏎G␍⏎` with offsets 2, 5, 8 – the lines are `A`, `G`; the raw sequence
is `A␍⏎G` -/
example :
    let buf : List UInt8 := [62, 97, 10, 65, 13, 10, 71, 13, 10]
    let bp : BufPos := { start := 0, seqPos := [2, 5, 8] }
    rawLines buf bp = [[65, 13], [71, 13]] ∧
    allSome (seqLines buf bp) = some [[65], [71]] ∧
    seqRaw buf bp = some [65, 13, 10, 71] := by decide +kernel

end SeqIo.Fasta.Raw
