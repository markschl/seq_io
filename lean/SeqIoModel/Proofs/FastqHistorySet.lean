import SeqIoModel.Proofs.FastqStream
/-!
# FASTQ record-set reads

`read_record_set_exact` from a good reader state delivers a non-empty batch of S's next records
(all views taken in the snapshot of the buffer stored with the set), or S's next error, or the
end of the input (`readSet_spec`, in any environment `G`).
-/

namespace SeqIo.Fastq
open SeqIo SeqIo.Spec SeqIo.FillProofs SeqIo.Fastq.Hist

/-! ## views are stable under buffer extension -/

theorem slice_append {buf : List UInt8} {a b : Nat} {l : List UInt8} (e : List UInt8)
    (h : slice buf a b = some l) : slice (buf ++ e) a b = some l := by
  simp only [slice] at h ⊢
  split at h
  · rename_i hc
    rw [if_pos ⟨hc.1, by simp only [List.length_append]; omega⟩, List.take_append_of_le_length hc.2]
    exact h
  · cases h

theorem slice_map_append {buf : List UInt8} {a b : Nat} {l : List UInt8} (e : List UInt8)
    (h : (slice buf a b).map trimCr = some l) : (slice (buf ++ e) a b).map trimCr = some l := by
  cases hs : slice buf a b with
  | none => rw [hs] at h; cases h
  | some x => rw [slice_append e hs]; rw [hs] at h; exact h

theorem head_append {buf : List UInt8} {bp : BufPos} {l : List UInt8} (e : List UInt8)
    (h : head buf bp = some l) : head (buf ++ e) bp = some l := by
  simp only [head] at h ⊢
  split
  · rename_i hc; rw [hc] at h; cases h
  · rename_i x hc; rw [hc] at h; exact slice_map_append e h

theorem seq_append {buf : List UInt8} {bp : BufPos} {l : List UInt8} (e : List UInt8)
    (h : seq buf bp = some l) : seq (buf ++ e) bp = some l := by
  simp only [seq] at h ⊢
  split
  · rename_i hc; rw [hc] at h; cases h
  · rename_i x hc; rw [hc] at h; exact slice_map_append e h

theorem qual_append {buf : List UInt8} {bp : BufPos} {l : List UInt8} (e : List UInt8)
    (h : qual buf bp = some l) : qual (buf ++ e) bp = some l :=
  slice_map_append e h

theorem viewRec_append {buf : List UInt8} {bp : BufPos} {x : Rec} (e : List UInt8)
    (h : viewRec buf bp = some x) : viewRec (buf ++ e) bp = some x := by
  simp only [viewRec] at h
  split at h
  · rename_i h1 h2 h3
    simp only [viewRec, head_append e h1, seq_append e h2, qual_append e h3]
    exact h
  · cases h

theorem viewAll_append {buf : List UInt8} {ps : List BufPos} {xs : List Rec} (e : List UInt8)
    (h : viewAll buf ps = some xs) : viewAll (buf ++ e) ps = some xs := by
  induction ps generalizing xs with
  | nil => exact h
  | cons bp rest ih =>
    simp only [viewAll] at h
    split at h
    · rename_i x ys h1 h2
      simp only [viewAll, viewRec_append e h1, ih h2]
      exact h
    · cases h

theorem viewAll_length {buf : List UInt8} {ps : List BufPos} {xs : List Rec}
    (h : viewAll buf ps = some xs) : xs.length = ps.length := by
  induction ps generalizing xs with
  | nil => simp only [viewAll, Option.some.injEq] at h; subst h; rfl
  | cons bp rest ih =>
    simp only [viewAll] at h
    split at h
    · rename_i x ys h1 h2
      simp only [Option.some.injEq] at h
      subst h
      simp [ih h2]
    · cases h

theorem viewAll_snoc {buf : List UInt8} {ps : List BufPos} {xs : List Rec} {bp : BufPos} {x : Rec}
    (h : viewAll buf ps = some xs) (hx : viewRec buf bp = some x) :
    viewAll buf (ps ++ [bp]) = some (xs ++ [x]) := by
  induction ps generalizing xs with
  | nil =>
    simp only [viewAll, Option.some.injEq] at h; subst h
    simp only [List.nil_append, viewAll, hx]
  | cons bp' rest ih =>
    simp only [viewAll] at h
    split at h
    · rename_i y ys h1 h2
      simp only [Option.some.injEq] at h
      subst h
      simp only [List.cons_append, viewAll, h1, ih h2]
    · cases h

/-! ## the loop of `read_record_set_exact` -/

def LoopSt (inp : List UInt8) (G : Prop) (r : Reader) (its : List FqItem) : Prop :=
  Good inp G r its ∧ (r.state = .positioned ∨ r.state = .finished)

/-- result of the loop started with the records `xs` already stored and the items `its` ahead -/
inductive SetOut (inp : List UInt8) (G : Prop) (n : Option Nat) (xs : List Rec) (its : List FqItem)
    (res : Reader × RecordSet × Res Bool) : Prop
  | batch (hr : res.2.2 = .ok true) (ys : List FqRec) (its' : List FqItem)
      (hi : its = ys.map FqItem.record ++ its')
      (hv : viewAll res.1.br.buf res.2.1.positions = some (xs ++ ys.map recOf))
      (hl : LoopSt inp G res.1 its') (hne : xs ++ ys.map recOf ≠ [])
      (hc : ∀ n', n = some n' →
        xs.length + ys.length = n' ∨ (its' = [] ∧ xs.length + ys.length < n'))
  | none (hr : res.2.2 = .ok false) (hx : xs = []) (hi : its = [])
      (hp : res.2.1.positions = []) (hfin : Fin inp G res.1)
  | err (ys : List FqRec) (e : FqErr) (b l : Nat) (hr : res.2.2 = .err (specErr e))
      (hi : its = ys.map FqItem.record ++ [.err e b l]) (hp : res.2.1.positions = [])
      (hfin : Fin inp G res.1) (hc : ∀ n', n = some n' → xs.length + ys.length < n')
  | env (e : Err) (hr : res.2.2 = .err e) (henv : EnvErr e) (hG : ¬ G)
      (hp : res.2.1.positions = []) (hfin : Fin inp G res.1)

theorem SetOut.cons {inp G n xs x its' res}
    (h : SetOut inp G n (xs ++ [recOf x]) its' res) :
    SetOut inp G n xs (.record x :: its') res := by
  rcases h with ⟨hr, ys, its'', hi, hv, hl, hne, hc⟩ | ⟨hr, hx, -⟩ | ⟨ys, e, b, l, hr, hi, hp, hf, hc⟩ |
    ⟨e, hr, henv, hg, hp, hf⟩
  · refine .batch hr (x :: ys) its'' (by simp [hi]) (by simpa [List.append_assoc] using hv) hl
      (by simp) ?_
    intro n' hn
    have := hc n' hn
    simp only [List.length_append, List.length_cons, List.length_nil] at this ⊢
    rcases this with h1 | ⟨h1, h2⟩
    · left; omega
    · right; exact ⟨h1, by omega⟩
  · simp at hx
  · refine .err (x :: ys) e b l hr (by simp [hi]) hp hf ?_
    intro n' hn
    have := hc n' hn
    simp only [List.length_append, List.length_cons, List.length_nil] at this ⊢
    omega
  · exact .env e hr henv hg hp hf

/-- measure of the loop: every iteration steps over a record (at least one byte), turns a fresh
search into a pending one, or finishes the reader -/
def lm (inp : List UInt8) (r : Reader) : Nat :=
  if r.state = .finished then 1
  else 2 * (inp.length + 1 - r.byte) + (if r.incompletePos.isNone then 2 else 1)

theorem store_shown {inp : List UInt8} {G : Prop} {r : Reader} {x : FqRec} {its' : List FqItem}
    (n : Option Nat) (rs : RecordSet) (hsh : Shown inp G .positioned r x its') :
    storeStep n r rs = some (stepOver r, { rs with positions := rs.positions ++ [r.bp] },
        decide (n = some (rs.positions.length + 1))) ∧
      LoopSt inp G (stepOver r) its' ∧
      ((stepOver r).state = .positioned →
        (stepOver r).incompletePos = none ∧ r.byte + 1 ≤ (stepOver r).byte) := by
  have h01 := hsh.p01
  have hinc := incrementRecord_eq r (show r.bp.pos0 ≤ r.bp.pos1 + 1 by omega)
  refine ⟨by simp only [storeStep, hinc, List.length_append, List.length_singleton], ?_, ?_⟩
  · have hw : Win inp G (stepOver r) := hsh.win.stepOver (by omega)
    rcases hsh.rest with ⟨hst, hip, h1l, hits, -⟩ | ⟨hst, hits, -⟩
    · have hst2 : (stepOver r).state = .positioned := hst
      refine ⟨?_, Or.inl hst2⟩
      unfold Good
      rw [hst2]
      dsimp only
      exact ⟨⟨hw, h1l⟩, hsh.eof, (by intro ip h; rw [show (stepOver r).incompletePos = none from hip] at h; cases h), hits⟩
    · have hst2 : (stepOver r).state = .finished := hst
      refine ⟨?_, Or.inr hst2⟩
      unfold Good
      rw [hst2]
      dsimp only
      exact ⟨hw, hits⟩
  · intro hst
    rcases hsh.rest with ⟨-, hip, -, -, -⟩ | ⟨hst', -⟩
    · exact ⟨hip, by simp only [stepOver]; omega⟩
    · rw [show (stepOver r).state = r.state from rfl, hst'] at hst; cases hst

theorem byte_le_of_base {inp G r} (h : Base inp G r) : r.byte ≤ inp.length := by
  have := h.byte_eq; have := h.cur_le; omega

theorem fqGroup_pos (h s p q : List UInt8) (b l : Nat) (e : Bool) :
    itemPos (fqGroup false h s p q b l e) = (l, b) := by
  rw [fqGroup_false_eq]
  simp only [apply_ite itemPos]
  simp only [itemPos, ite_self]

/-- the first item of S from a group on carries the position of that group -/
theorem fqGo_head_pos {ps : List (List UInt8)} {b l : Nat} {it : FqItem} {rest : List FqItem}
    (h : fqGo false ps b l = it :: rest) : itemPos it = (l, b) := by
  by_cases hl : ps.length ≤ 3
  · rw [fqGo_few false ps hl] at h
    split at h
    · cases h
    · cases h; rfl
  · match ps, hl with
    | [h', s, p, q], _ =>
      rw [fqGo_three] at h
      cases h
      exact fqGroup_pos h' s p q b l true
    | h' :: s :: p :: q :: r :: rest', _ =>
      rw [fqGo_four false h' s p q (r :: rest') (by simp)] at h
      have hp := fqGroup_pos h' s p q b l false
      cases hg : fqGroup false h' s p q b l <;> rw [hg] at h hp <;> cases h <;> exact hp
    | [], hl | [_], hl | [_, _], hl | [_, _, _], hl => exact absurd (by simp) hl

theorem itemsAt_head_record {inp : List UInt8} {b l : Nat} {x : FqRec} {rest : List FqItem}
    (h : itemsAt inp b l = .record x :: rest) : x.byte = b ∧ x.line = l := by
  have := fqGo_head_pos h
  exact ⟨congrArg Prod.snd this, congrArg Prod.fst this⟩

/-- the loop after a record has been found: store it and go on -/
def storeK (f fuel : Nat) (n : Option Nat) (isNew : Bool) (r : Reader) (rs : RecordSet) :
    Reader × RecordSet × Res Bool :=
  match storeStep n r rs with
  | none => (r, rs, .panic)
  | some (r, rs, true) => (r, rs, .ok true)
  | some (r, rs, false) => setLoop f fuel n isNew r rs

/-- the loop after a `search` that stopped at the end of the buffer -/
def afterMiss (f fuel : Nat) (n : Option Nat) (isNew : Bool) (r : Reader) (rs : RecordSet) :
    Reader × RecordSet × Res Bool :=
  if rs.positions.isEmpty then setLoop f fuel n isNew r rs
  else match n with
    | some n' => if rs.positions.length < n' then setLoop f fuel n false r rs else (r, rs, .ok true)
    | none => (r, rs, .ok true)

/-- the search of one iteration: a pending search is resumed, otherwise a new one is started -/
def findNext (fuel : Nat) (isNew : Bool) (r : Reader) : Reader × Res Bool :=
  match r.incompletePos with
  | some ip => resume fuel ip isNew { r with incompletePos := none }
  | none => search r

theorem setLoop_succ (f fuel : Nat) (n : Option Nat) (isNew : Bool) (r : Reader) (rs : RecordSet) :
    setLoop (f + 1) fuel n isNew r rs =
      if r.state = .finished then (r, rs, .ok true)
      else
        match r.incompletePos with
        | some ip =>
          match resume fuel ip isNew { r with incompletePos := none } with
          | (r, .ok true) => storeK f fuel n isNew r rs
          | (r, .ok false) =>
            if rs.positions.isEmpty then (r, rs, .ok false) else (r, rs, .ok true)
          | (r, .err e) => (r, { rs with positions := [] }, .err e)
          | (r, .panic) => (r, rs, .panic)
          | (r, .fuel) => (r, rs, .fuel)
        | none =>
          match search r with
          | (r, .err e) => (r, { rs with positions := [] }, .err e)
          | (r, .panic) => (r, rs, .panic)
          | (r, .fuel) => (r, rs, .fuel)
          | (r, .ok false) => afterMiss f fuel n isNew r rs
          | (r, .ok true) => storeK f fuel n isNew r rs := by
  rw [setLoop]
  rfl

/-- one iteration of the loop, by the outcome of its search: `setLoop_succ` with the two searches
read as one -/
theorem setLoop_eq (f fuel : Nat) (n : Option Nat) (isNew : Bool) (r : Reader) (rs : RecordSet) :
    setLoop (f + 1) fuel n isNew r rs =
      if r.state = .finished then (r, rs, .ok true)
      else
        match findNext fuel isNew r with
        | (r1, .ok true) => storeK f fuel n isNew r1 rs
        | (r1, .ok false) =>
          if r.incompletePos.isSome then
            if rs.positions.isEmpty then (r1, rs, .ok false) else (r1, rs, .ok true)
          else afterMiss f fuel n isNew r1 rs
        | (r1, .err e) => (r1, { rs with positions := [] }, .err e)
        | (r1, .panic) => (r1, rs, .panic)
        | (r1, .fuel) => (r1, rs, .fuel) := by
  rw [setLoop_succ, findNext]
  cases r.incompletePos with
  | none =>
    dsimp only
    rcases search r with ⟨r1, (_ | _) | _ | _ | _⟩ <;> rfl
  | some ip =>
    dsimp only
    rcases resume fuel ip isNew _ with ⟨r1, (_ | _) | _ | _ | _⟩ <;> rfl

/-- the search of one iteration from a positioned good state: a new search stops at the end of the
buffer; or S's next item is found – with the buffer only extended unless a resumed search may
shift it, and with requests only from a resumed search -/
theorem findNext_spec {inp G fuel r its} (isNew : Bool) (hg : Good inp G r its)
    (hst : r.state = .positioned) (hfuel : inp.length + 2 ≤ fuel) :
    (r.incompletePos = none ∧ ∃ bp' ip',
      search r = ({ r with bp := bp', incompletePos := some ip' }, .ok false) ∧
      LoopSt inp G { r with bp := bp', incompletePos := some ip' } its) ∨
    (Found inp G .positioned its (findNext fuel isNew r) ∧
      (r.incompletePos = none ∨ isNew = false →
        ∃ e, (findNext fuel isNew r).1.br.buf = r.br.buf ++ e) ∧
      Reqs (fun c => r.incompletePos ≠ none ∧ (isNew = true → ¬ Fits (inp.drop r.byte) c)) r
        (findNext fuel isNew r).1 (findNext fuel isNew r).2 ∧
      ((findNext fuel isNew r).2 = .ok false → r.incompletePos ≠ none)) := by
  simp only [Good, hst] at hg
  obtain ⟨hb, he, hip, hits⟩ := hg
  subst hits
  rw [← hst]
  unfold findNext
  cases hipv : r.incompletePos with
  | some ip =>
    obtain ⟨hF, hE, hL⟩ := resume_spec inp G isNew fuel { r with incompletePos := none } ip
      (hb.set_bp r.bp none rfl) he (hip ip hipv) (mu_lt _ hfuel)
    exact Or.inr ⟨hF, fun h => hE (h.resolve_left nofun), hL.mono fun c h => ⟨nofun, h⟩,
      fun _ => nofun⟩
  | none =>
    rcases search_cases hb he hipv with ⟨bp', ip', hs, hp0, hsc⟩ | ⟨bp', x, its', hi, hs, hsh⟩ |
      ⟨bp', e, b, l, hi, hs, hw⟩
    · exact Or.inl ⟨rfl, bp', ip', hs, good_positioned_of (hb.set_bp bp' _ hp0) he
        (fun ip h => by cases h; exact hsc) rfl hst, Or.inl hst⟩
    · simp only [hs, hi]
      exact Or.inr ⟨.record rfl x its' rfl hsh, fun _ => ⟨[], (List.append_nil _).symm⟩,
        Reqs.same rfl rfl nofun, nofun⟩
    · simp only [hs, hi]
      exact Or.inr ⟨.err e b l rfl rfl ⟨rfl, hw⟩,
        fun _ => ⟨[], (List.append_nil _).symm⟩,
        Reqs.same rfl rfl (by simpa using specErr_ne_bl e), nofun⟩

/-- `ih`: the loop with less fuel -/
theorem storeK_spec {inp : List UInt8} {G : Prop} {fuel f : Nat} {n : Option Nat} {isNew : Bool}
    {r : Reader} {rs : RecordSet} {xs : List Rec} {x : FqRec} {its' : List FqItem}
    (ih : ∀ (isNew : Bool) (r : Reader) (rs : RecordSet) (its : List FqItem) (xs : List Rec),
      LoopSt inp G r its → viewAll r.br.buf rs.positions = some xs →
      (isNew = true → r.state = .positioned → r.incompletePos ≠ none → rs.positions = []) →
      (∀ n', n = some n' → xs.length < n') → (r.state = .finished → xs ≠ []) → lm inp r ≤ f →
      SetOut inp G n xs its (setLoop f fuel n isNew r rs))
    (hsh : Shown inp G .positioned r x its') (hv : viewAll r.br.buf rs.positions = some xs)
    (hn : ∀ n', n = some n' → xs.length < n') (hbl : r.byte ≤ inp.length)
    (hlm : 2 * (inp.length + 1 - r.byte) ≤ f) :
    SetOut inp G n xs (.record x :: its') (storeK f fuel n isNew r rs) := by
  obtain ⟨hstore, hl2, hm2⟩ := store_shown n rs hsh
  have hv2 : viewAll (stepOver r).br.buf _ = _ := viewAll_snoc hv hsh.view
  have hlen := viewAll_length hv
  unfold storeK
  rw [hstore]
  apply SetOut.cons
  by_cases hk : n = some (rs.positions.length + 1)
  · simp only [hk, decide_true]
    refine .batch rfl [] its' (by simp) (by simpa using hv2) hl2 (by simp) fun n' hn' => ?_
    cases hn'
    exact Or.inl (by simp [hlen])
  · simp only [hk, decide_false]
    apply ih isNew (stepOver r) _ its' _ hl2 hv2
    · exact fun _ hs2 hne => absurd (hm2 hs2).1 hne
    · intro n' hn'
      have := hn n' hn'
      rw [hn', hlen.symm] at hk
      simp only [Option.some.injEq] at hk
      simp only [List.length_append, List.length_singleton]
      omega
    · intro _; simp
    · unfold lm
      split
      · omega
      · rename_i hnf
        obtain ⟨hip2, hb2⟩ := hm2 (hl2.2.resolve_right hnf)
        rw [hip2]
        simp only [Option.isNone_none, if_true]
        omega

/-- the loop from a state at its top, with the records `xs` stored so far (`hv`: the stored
positions show them in the present buffer).  The third hypothesis is what keeps `hv` true: the
positions are offsets into the buffer, and only a resumed search with `isNew = true` may shift the
buffer – which the loop enters only while nothing is stored.  An exact-count read has not yet
reached its count, and a finished reader has stored something (it was finished by this call). -/
theorem setLoop_spec (inp : List UInt8) (G : Prop) (fuel : Nat) (hfuel : inp.length + 2 ≤ fuel)
    (n : Option Nat) (f : Nat) :
    ∀ (isNew : Bool) (r : Reader) (rs : RecordSet) (its : List FqItem) (xs : List Rec),
      LoopSt inp G r its → viewAll r.br.buf rs.positions = some xs →
      (isNew = true → r.state = .positioned → r.incompletePos ≠ none → rs.positions = []) →
      (∀ n', n = some n' → xs.length < n') →
      (r.state = .finished → xs ≠ []) →
      lm inp r ≤ f →
      SetOut inp G n xs its (setLoop f fuel n isNew r rs) := by
  induction f with
  | zero =>
    intro isNew r rs its xs _ _ _ _ _ h
    unfold lm at h
    split at h
    · omega
    · split at h <;> omega
  | succ f ih =>
    intro isNew r rs its xs hl hv hnew hn hfin hlm
    obtain ⟨hg, hst⟩ := hl
    have hlen := viewAll_length hv
    have hxs : ¬ rs.positions.isEmpty = true → xs ++ List.map recOf [] ≠ [] := by
      intro hemp hx
      rw [List.map_nil, List.append_nil] at hx
      rw [hx] at hlen
      exact hemp (List.isEmpty_iff.mpr (List.eq_nil_of_length_eq_zero hlen.symm))
    rw [setLoop_eq]
    rcases hst with hst | hst
    rotate_left
    · -- finished: the loop is left
      rw [if_pos hst]
      have hits : its = [] := by
        have hg' := hg
        simp only [Good, hst] at hg'
        exact hg'.2
      subst hits
      exact .batch rfl [] [] (by simp) (by simpa using hv) ⟨hg, Or.inr hst⟩
        (by simpa using hfin hst) fun n' hn' => Or.inr ⟨rfl, by simpa using hn n' hn'⟩
    have hnf : ¬ r.state = .finished := by rw [hst]; nofun
    rw [if_neg hnf]
    have hg' := hg
    simp only [Good, hst] at hg'
    obtain ⟨hb, -, -, hits⟩ := hg'
    have hbl := byte_le_of_base hb
    have hlm' : 2 * (inp.length + 1 - r.byte) ≤ f := by
      unfold lm at hlm
      rw [if_neg hnf] at hlm
      split at hlm <;> omega
    -- a record of S is found at `r1`: it is stored
    have found : ∀ (r1 : Reader) (x : FqRec) (its' : List FqItem),
        Shown inp G .positioned r1 x its' → viewAll r1.br.buf rs.positions = some xs →
        its = .record x :: its' → SetOut inp G n xs its (storeK f fuel n isNew r1 rs) := by
      intro r1 x its' hsh hv1 hi
      have hby : r1.byte = r.byte := hsh.byte_eq.symm.trans (itemsAt_head_record (hits ▸ hi)).1
      rw [hi]
      exact storeK_spec ih hsh hv1 hn (hby ▸ hbl) (hby ▸ hlm')
    -- the error of S is found: the set is emptied
    have failed : ∀ (r1 : Reader) (e : FqErr) (b l : Nat),
        its = [.err e b l] → Fin inp G r1 →
        SetOut inp G n xs its (r1, { rs with positions := [] }, .err (specErr e)) := by
      intro r1 e b l hi hf
      exact .err [] e b l rfl hi rfl hf fun n' hn' => by simpa using hn n' hn'
    rcases findNext_spec isNew hg hst hfuel with ⟨hipv, bp', ip', hs, hl1⟩ | ⟨hF, hbuf, -, hne⟩
    · -- a new search stops at the end of the buffer
      simp only [findNext, hipv, hs, Option.isSome_none, Bool.false_eq_true, if_false]
      have hlm1 : lm inp { r with bp := bp', incompletePos := some ip' } ≤ f := by
        unfold lm at hlm ⊢
        rw [if_neg hnf] at hlm ⊢
        rw [hipv] at hlm
        exact Nat.le_of_succ_le_succ hlm
      have hnf1 : ({ r with bp := bp', incompletePos := some ip' } : Reader).state = .finished →
          xs ≠ [] := fun h => absurd h hnf
      unfold afterMiss
      by_cases hemp : rs.positions.isEmpty = true
      · rw [if_pos hemp]
        exact ih isNew _ rs its xs hl1 hv (fun _ _ _ => List.isEmpty_iff.mp hemp) hn hnf1 hlm1
      · rw [if_neg hemp]
        cases n with
        | none => exact .batch rfl [] its (by simp) (by simpa using hv) hl1 (hxs hemp) nofun
        | some n' =>
          dsimp only
          rw [if_pos (hlen ▸ hn n' rfl)]
          exact ih false _ rs its xs hl1 hv nofun hn hnf1 hlm1
    rcases hx : findNext fuel isNew r with ⟨r1, res1⟩
    rw [hx] at hF hbuf hne
    have hv1 : viewAll r1.br.buf rs.positions = some xs := by
      by_cases hc : r.incompletePos = none ∨ isNew = false
      · obtain ⟨e, he'⟩ := hbuf hc
        rw [he']
        exact viewAll_append e hv
      · rw [hnew (by cases isNew; exact absurd (Or.inr rfl) hc; rfl) hst
          fun h => hc (Or.inl h)] at hv ⊢
        exact hv
    rcases hF with ⟨hr, x, its', hi, hsh⟩ | ⟨hr, hi, hfin1⟩ | ⟨e, b, l, hr, hi, hfin1⟩ |
      ⟨e, hr, henv, hG, hfin1⟩ <;> dsimp only at hr <;> subst hr <;> dsimp only
    · exact found r1 x its' hsh hv1 hi
    · -- the end of the input
      rw [if_pos (Option.isSome_iff_ne_none.mpr (hne rfl))]
      by_cases hemp : rs.positions.isEmpty = true
      · rw [if_pos hemp]
        have hp := List.isEmpty_iff.mp hemp
        refine .none rfl ?_ hi hp hfin1
        rw [hp] at hv
        cases hv
        rfl
      · rw [if_neg hemp]
        exact .batch rfl [] [] hi (by simpa using hv1) ⟨hfin1.good, Or.inr hfin1.1⟩ (hxs hemp)
          fun n' hn' => Or.inr ⟨rfl, by simpa using hn n' hn'⟩
    · exact failed r1 e b l hi hfin1
    · exact .env e rfl henv hG rfl hfin1

/-! ## `read_record_set_exact` -/

/-- result of one record-set read from a reader with the items `its` ahead (`rs0` = the set
that was passed in) -/
inductive SetRes (inp : List UInt8) (G : Prop) (n : Option Nat) (rs0 : RecordSet) (its : List FqItem)
    (res : Reader × RecordSet × Res Bool) : Prop
  | batch (hr : res.2.2 = .ok true) (ys : List FqRec) (its' : List FqItem)
      (hi : its = ys.map FqItem.record ++ its')
      (hv : viewAll res.2.1.buffer res.2.1.positions = some (ys.map recOf)) (hne : ys ≠ [])
      (hl : LoopSt inp G res.1 its')
      (hc : ∀ n', n = some n' → ys.length = n' ∨ (its' = [] ∧ ys.length < n'))
  | none (hr : res.2.2 = .ok false) (hi : its = []) (hfin : Fin inp G res.1)
      (hrs : res.2.1 = rs0 ∨ res.2.1.positions = [])
  | err (ys : List FqRec) (e : FqErr) (b l : Nat) (hr : res.2.2 = .err (specErr e))
      (hi : its = ys.map FqItem.record ++ [.err e b l]) (hp : res.2.1.positions = [])
      (hfin : Fin inp G res.1) (hc : ∀ n', n = some n' → ys.length < n')
  | env (e : Err) (hr : res.2.2 = .err e) (henv : EnvErr e) (hG : ¬ G)
      (hp : res.2.1.positions = []) (hfin : Fin inp G res.1)
  | stopped (hG : ¬ G) (hr : res.2.2 = .ok false ∨ ∃ k, res.2.2 = .err (.io k))
      (hrs : res.2.1 = rs0) (its' : List FqItem) (hg : Good inp G res.1 its')
      (hst : res.1.state = .finished ∨ res.1.state = .new) (hi : its' = [] ∨ its' = its)

theorem SetOut.res {inp G n rs0 its x} (h : SetOut inp G n [] its x) :
    SetRes inp G n rs0 its (setFin x) := by
  rcases x with ⟨r, rs, res⟩
  rcases h with ⟨hr, ys, its', hi, hv, hl, hne, hc⟩ | ⟨hr, -, hi, hp, hf⟩ |
    ⟨ys, e, b, l, hr, hi, hp, hf, hc⟩ | ⟨e, hr, henv, hg, hp, hf⟩
  · simp only at hr hv hl hc
    subst hr
    refine .batch rfl ys its' hi (by simpa [setFin] using hv) ?_ hl ?_
    · intro h; subst h; simp at hne
    · intro n' hn'; simpa using hc n' hn'
  · simp only at hr hp hf
    subst hr
    exact .none rfl hi hf (Or.inr hp)
  · simp only at hr hp hf
    subst hr
    exact .err ys e b l rfl hi hp hf fun n' hn' => by simpa using hc n' hn'
  · simp only at hr hp hf
    subst hr
    exact .env e rfl henv hg hp hf

theorem readSet_spec (inp : List UInt8) (G : Prop) (fuel : Nat) (r : Reader) (rs : RecordSet)
    (n : Option Nat) (its : List FqItem) (hg : Good inp G r its)
    (hfuel : 2 * r.br.src.inp.length + 4 ≤ fuel) (hn : ∀ n', n = some n' → 1 ≤ n') :
    SetRes inp G n rs its (readRecordSetExact fuel r rs n) := by
  rw [good_inp hg] at hfuel
  rw [readSet_eq]
  rcases enter_cases hg with ⟨r', res, hp, hne, -, -, hE⟩ | ⟨r2, hp, hg2, hst2, -, -⟩
  · rw [hp, setPost_of_ne hne]
    rcases hE with ⟨hr, hits, hfin⟩ | ⟨hG, hres, its', h⟩
    · exact .none hr hits hfin (Or.inl rfl)
    · exact .stopped hG hres rfl its' h.1 h.2.1 h.2.2
  · rw [hp, setPost_ok]
    apply SetOut.res
    apply setLoop_spec inp G fuel (by omega) n fuel true r2 _ its [] ⟨hg2, Or.inl hst2⟩ rfl
    · intro _ _ _; rfl
    · intro n' hn'; exact hn n' hn'
    · intro h; rw [hst2] at h; cases h
    · have hb : r2.byte ≤ inp.length := by
        simp only [Good, hst2] at hg2
        exact byte_le_of_base hg2.1
      unfold lm
      rw [hst2]
      simp only [reduceCtorEq, if_false]
      split <;> omega

end SeqIo.Fastq
