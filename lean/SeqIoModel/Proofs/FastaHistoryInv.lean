import SeqIoModel.Proofs.FastaHistorySpec
/-!
# The reader invariant for all five states, and `next`

`RInv inp r k`: `r` is a reader state that some history of calls on input `inp` can leave
behind, and `k` is the index of the record of S that the next read has to deliver.
-/
open SeqIo SeqIo.FillProofs SeqIo.Spec

namespace SeqIo.Fasta.Hist

/-! ## the reader invariant -/

/-- record `k` of S is pending: it starts at `r.byte` (line `r.line`) and the stored search
state is an intermediate state of its scan -/
structure Ready (inp : List UInt8) (r : Reader) (k : Nat) : Prop where
  win : Win inp r
  eof : Eof inp r
  scan : ScanSt inp r r.byte
  pt : Pt inp k r.byte r.line
  inc : r.state = .incomplete → r.br.cap ≤ r.br.buf.length ∧ r.br.buf.length ≤ r.searchPos + 1

theorem Ready.withState {inp : List UInt8} {r : Reader} {k : Nat} (h : Ready inp r k) (st : State)
    (hst : st ≠ .incomplete) : Ready inp { r with state := st } k :=
  ⟨⟨h.win.b, h.win.pol⟩, h.eof, ⟨h.scan.start_eq, h.scan.start_le, h.scan.sp_le, h.scan.pos_lt, h.scan.resum⟩,
    h.pt, fun h' => absurd h' hst⟩

/-- a reader that has seen the end of the input (or the format error) -/
structure Fin (inp : List UInt8) (r : Reader) : Prop where
  win : Win inp r
  eof : Eof inp r
  st : r.state = .finished
  byte_eq : r.byte = r.bp.start + base r

structure Fresh (inp : List UInt8) (r : Reader) : Prop where
  win : Win inp r
  st : r.state = .new
  buf : r.br.buf = []
  cur : r.br.src.cursor = 0
  line : r.line = 0
  byte : r.byte = 0
  sq : r.bp.seqPos = []
  start : r.bp.start = 0

/-- `next` has returned record `k - 1`; record `k` starts at `search_pos` -/
structure Parsed (inp : List UInt8) (r : Reader) (k : Nat) : Prop where
  win : Win inp r
  eof : Eof inp r
  start_le : r.bp.start ≤ r.searchPos
  sp_le : r.searchPos ≤ r.br.buf.length
  byte_eq : r.byte = r.bp.start + base r
  pt : Pt inp k (r.searchPos + base r) (r.line + r.bp.seqPos.length)

inductive RInv (inp : List UInt8) : Reader → Nat → Prop
  | fresh {r : Reader} : Fresh inp r → RInv inp r 0
  | parsing {r : Reader} {k : Nat} : Parsed inp r k → r.state = .parsing → RInv inp r k
  /-- after a record set read or a seek: record `k` is pending -/
  | ready {r : Reader} {k : Nat} : Ready inp r k → (r.state = .positioned ∨ r.state = .incomplete) →
      RInv inp r k
  | finished {r : Reader} {k : Nat} : Fin inp r → k = (recsOf inp).length → RInv inp r k

theorem RInv.win {inp : List UInt8} {r : Reader} {k : Nat} (h : RInv inp r k) : Win inp r := by
  cases h with
  | fresh h => exact h.win
  | parsing h => exact h.win
  | ready h => exact h.win
  | finished h => exact h.win

theorem RInv.k_le {inp : List UInt8} {r : Reader} {k : Nat} (h : RInv inp r k) :
    k ≤ (recsOf inp).length := by
  cases h with
  | fresh => exact Nat.zero_le _
  | parsing h => exact Nat.le_of_lt h.pt.lt
  | ready h => exact Nat.le_of_lt h.pt.lt
  | finished _ hk => rw [hk]; exact Nat.le_refl _

theorem ready_incRec {inp : List UInt8} {r : Reader} {k : Nat} (h : Parsed inp r k) (st : State)
    (hst : st ≠ .incomplete) :
    Ready inp { incRec r with state := st } k := by
  have hb : (incRec r).byte = r.searchPos + base r := by
    show r.byte + (r.searchPos - r.bp.start) = _
    have := h.start_le
    have := h.byte_eq
    omega
  refine ⟨⟨h.win.b, h.win.pol⟩, h.eof, ?_, ?_, fun h' => absurd h' hst⟩
  · exact ScanSt.atStart rfl hb.symm h.sp_le
  · show Pt inp k (incRec r).byte _
    rw [hb]; exact h.pt

theorem incrementRecord_eq (r : Reader) (hle : r.bp.start ≤ r.searchPos) :
    incrementRecord r = some (incRec r) := by
  simp only [incrementRecord, csub, hle, if_true, incRec]

/-! ## the outcome of a read of one record -/

/-- the two outcomes of a read that has a pending record `k`: the record, or `BufferLimit` after
a refusal of the policy (then record `k` is still pending) -/
def RecOut (inp : List UInt8) (k : Nat) (pol0 : Pol) (r' : Reader) (res : Res Bool) : Prop :=
  (res = .ok true ∧ ∃ rc, (recsOf inp)[k]? = some rc ∧ viewRec r'.br.buf r'.bp = some (view rc) ∧
      head r'.br.buf r'.bp = some rc.head ∧ ownedSeq r'.br.buf r'.bp = some rc.seq ∧
      position r' = some (posOf rc) ∧ RInv inp r' (k + 1) ∧ r'.state ≠ .new) ∨
  (res = .err .bufferLimit ∧ ¬ PolGrows pol0 ∧ Ready inp r' k ∧ r'.state = .incomplete)

theorem RecOut.congr {inp : List UInt8} {k : Nat} {p q : Pol} {r' : Reader} {res : Res Bool}
    (h : RecOut inp k p r' res) (hpq : p.f = q.f) : RecOut inp k q r' res := by
  rcases h with h | ⟨h1, h2, h3⟩
  · exact Or.inl h
  · exact Or.inr ⟨h1, fun hg => h2 (polGrows_congr hpq hg), h3⟩

theorem found_out {inp : List UInt8} {r : Reader} {k : Nat} (pol : Pol) (hw : Win inp r)
    (he : Eof inp r) (hd : RecDone inp r r.byte) (hp : Pt inp k r.byte r.line)
    (hst : r.state = .parsing ∨ r.state = .finished) : RecOut inp k pol r (.ok true) := by
  obtain ⟨rc, hk, -, hv, hh, ho, hpos, hcase⟩ := recDone_pt hw.b.toF hd hp
  refine Or.inl ⟨rfl, rc, hk, hv, hh, ho, hpos, ?_, ?_⟩
  · rcases hcase with ⟨hnf, hsl, hsple, hp1⟩ | ⟨hfin, hlen⟩
    · exact RInv.parsing ⟨hw, he, hsl, hsple, hd.start_eq.symm, hp1⟩ (hst.resolve_right hnf)
    · exact RInv.finished ⟨hw, he, hfin, hd.start_eq.symm⟩ hlen
  · rcases hst with h' | h' <;> rw [h'] <;> nofun

/-! ## the second half of `next` -/

theorem nextCont_out {inp : List UInt8} {r : Reader} {k fuel : Nat} (h : Ready inp r k)
    (hst : r.state = .parsing ∨ r.state = .incomplete) (hfuel : inp.length < fuel) :
    ∃ r' res, nextCont fuel r = (r', res) ∧ Frame r r' ∧ RecOut inp k r.pol r' res := by
  obtain ⟨r', res, new, hres, hk, hw', hnf', hF, hcase⟩ :=
    nextCont_gen (.ofWin h.win) h.scan (hst.imp_left fun h' => ⟨h', h.eof⟩) hfuel
  have hwin : Win inp r' := ⟨hw'.b.toB (hnf' h.win.b.nofail), hw'.pol⟩
  have hp : Pt inp k r'.byte r'.line := by rw [hk.byte, hk.line]; exact h.pt
  refine ⟨r', res, hres, hk.toFrame, ?_⟩
  rcases hcase with ⟨rfl, -, he, hd, hst', -⟩ | ⟨hs, hst', href | ⟨k, -, hnf⟩⟩
  · exact found_out _ hwin he (by rw [hk.byte]; exact hd) hp hst'
  · obtain ⟨hfull', hnear'⟩ := (hF h.inc).2.2 href.1
    exact Or.inr ⟨href.1, href.not_grows, ⟨hwin, fun hlt => absurd hfull' (Nat.not_le.mpr hlt),
      by rw [hk.byte]; exact hs, hp, fun _ => ⟨hfull', hnear'⟩⟩, hst'⟩
  · exact absurd h.win.b.nofail hnf

/-! ## `first_byte` and `init` -/

/-- the blank lines skipped so far are the ones S skips -/
def SkipRel (inp : List UInt8) (r : Reader) : Prop :=
  skipBlank (lines inp) 0 1 = skipBlank (lines (inp.drop (base r))) (base r) (r.line + 1)

structure NewF (inp : List UInt8) (r : Reader) : Prop where
  win : WinR inp r
  byte_eq : r.byte = base r
  skip : SkipRel inp r
  sq : r.bp.seqPos = []
  start : r.bp.start = 0

/-- `init` on a reader in state `new`, possibly after earlier failed attempts and with an arbitrary
script: a refill fails and the reader is as before; or the first record of S is pending; or the
reader is `finished`, at the end of the input (then S has no record if the buffer held at most a CR
on entry) or at a first line that does not start with `>` -/
theorem init_gen {inp : List UInt8} {r : Reader} {fuel : Nat} (hf : NewF inp r)
    (hfuel : inp.length < fuel) :
    ∃ r' res, init fuel r = (r', res) ∧ Frame r r' ∧ WinR inp r' ∧
      (NoFail r.br.src.script → NoFail r'.br.src.script) ∧
      ((∃ k, res = .err (.io k) ∧ ¬ NoFail r.br.src.script ∧ NewF inp r' ∧ r'.state = r.state) ∨
       (res = .ok true ∧ Eof inp r' ∧ ScanSt inp r' r'.byte ∧ Pt inp 0 r'.byte r'.line ∧
          r'.state = r.state ∧ (items inp).err = none) ∨
       (r'.state = .finished ∧ Eof inp r' ∧ r'.byte = r'.bp.start + base r' ∧
          ((res = .ok false ∧
              (r.br.buf = [] ∨ r.br.buf = [CR] → recsOf inp = [] ∧ (items inp).err = none)) ∨
           (∃ ln c, res = .err (.invalidStart ln c) ∧ recsOf inp = [] ∧
              (items inp).err = some (.invalidStart ln c))))) := by
  obtain ⟨r1, res, hfirst, hw1, hb1, hsk1, hsf1, hbp1, -, hst1, -, hpol1, -, hnf1, hcase⟩ :=
    firstByte_gen fuel r hf.win hf.byte_eq hf.skip (Nat.lt_of_le_of_lt (Nat.sub_le _ _) hfuel)
  have hpf : r1.pol.f = r.pol.f := by rw [hpol1]
  have hsq : r1.bp.seqPos = [] := by rw [hbp1]; exact hf.sq
  have hbyte : r1.byte = r1.bp.start + base r1 := by rw [hb1, hbp1, hf.start, Nat.zero_add]
  rcases hcase with ⟨k, rfl, hnf⟩ | ⟨rfl, he1, hnil⟩ |
    ⟨ln, pos, c, rfl, he1, -, hpos, hhead, hskip, l, ls, hl', hc⟩
  · exact ⟨r1, _, by simp only [init, hfirst], ⟨hpf, hsf1⟩, hw1, hnf1,
      Or.inl ⟨k, rfl, hnf, ⟨hw1, hb1, hsk1, hsq, by rw [hbp1]; exact hf.start⟩, hst1⟩⟩
  · exact ⟨{ r1 with state := .finished }, _, by simp only [init, hfirst], ⟨hpf, hsf1⟩,
      ⟨hw1.b, hw1.pol⟩, hnf1,
      Or.inr (Or.inr ⟨rfl, he1, hbyte, Or.inl ⟨rfl, fun h => items_of_skip_nil inp (hnil h)⟩⟩)⟩
  · obtain ⟨hgt1, hgt2⟩ := items_of_skip inp _ ln c l ls hskip hl' hc hhead
    by_cases hgt : c = GT
    · subst hgt
      obtain ⟨herr, hpt⟩ := hgt1 rfl
      refine ⟨{ r1 with bp := { r1.bp with start := pos }, byte := r1.byte + pos, line := ln,
                        searchPos := pos + 1 }, .ok true, by simp only [init, hfirst, if_true],
        ⟨hpf, hsf1⟩, ⟨hw1.b, hw1.pol⟩, hnf1, Or.inr (Or.inl ⟨rfl, he1, ?_, ?_, hst1, herr⟩)⟩
      · show ScanSt inp _ (r1.byte + pos)
        rw [hb1, Nat.add_comm]
        exact ScanSt.afterGt (by show BufPos.mk pos r1.bp.seqPos = _; rw [hsq]) rfl hpos hhead
      · show Pt inp 0 (r1.byte + pos) ln
        rw [hb1, Nat.add_comm]; exact hpt
    · obtain ⟨hrecs, herr⟩ := hgt2 hgt
      exact ⟨{ r1 with state := .finished }, _, by simp only [init, hfirst, hgt, if_false],
        ⟨hpf, hsf1⟩, ⟨hw1.b, hw1.pol⟩, hnf1,
        Or.inr (Or.inr ⟨rfl, he1, hbyte, Or.inr ⟨ln, c, rfl, hrecs, herr⟩⟩)⟩

/-! ## `next` -/

theorem err_none_of_lt {inp : List UInt8} {k : Nat} (h : k < (recsOf inp).length) :
    (items inp).err = none := by
  cases he : (items inp).err with
  | none => rfl
  | some e =>
    have := items_err_recs inp (by rw [he]; simp)
    rw [this] at h
    cases h

theorem enter_rinv {inp : List UInt8} {r : Reader} {k fuel : Nat} (h : RInv inp r k)
    (hfuel : inp.length < fuel) (st : State) (hst : st ≠ .incomplete) :
    ∃ r1 res, enter fuel st r = (r1, res) ∧ Frame r r1 ∧
      ((res = .ok true ∧ Ready inp r1 k ∧ (r1.state = st ∨ r1.state = .incomplete) ∧
          (r.state = .new → (items inp).err = none)) ∨
       (res = .ok false ∧ k = (recsOf inp).length ∧ Fin inp r1 ∧
          (r.state = .new → (items inp).err = none)) ∨
       (∃ ln c, res = .err (.invalidStart ln c) ∧ r.state = .new ∧ Fin inp r1 ∧ recsOf inp = [] ∧
          (items inp).err = some (.invalidStart ln c))) := by
  cases h with
  | fresh hf =>
    have hnew : NewF inp r := by
      have hbase : base r = 0 := by simp [base, baseB, hf.cur]
      exact ⟨.ofWin hf.win, by rw [hf.byte, hbase], by unfold SkipRel; rw [hbase, hf.line]; rfl,
        hf.sq, hf.start⟩
    obtain ⟨r1, res1, hinit, hfr1, hw1, hnf1, hcase⟩ := init_gen hnew hfuel
    have hwin1 : Win inp r1 := ⟨hw1.b.toB (hnf1 hf.win.b.nofail), hw1.pol⟩
    rcases hcase with ⟨k, -, hnf, -⟩ | ⟨rfl, he, hs, hp, -, herr⟩ |
      ⟨hst1, he, hb, ⟨rfl, hnil⟩ | ⟨ln, c, rfl, hrecs, herr⟩⟩
    · exact absurd hf.win.b.nofail hnf
    · exact ⟨{ r1 with state := st }, _, by simp only [enter, hf.st, hinit], ⟨hfr1.polf, hfr1.seekFails⟩,
        Or.inl ⟨rfl, ⟨⟨hwin1.b, hwin1.pol⟩, he, scanSt_of_br hs rfl rfl rfl (Nat.le_refl _), hp,
          fun h => absurd h hst⟩, Or.inl rfl, fun _ => herr⟩⟩
    · obtain ⟨hrecs, herr⟩ := hnil (Or.inl hf.buf)
      exact ⟨r1, _, by simp only [enter, hf.st, hinit], hfr1,
        Or.inr (Or.inl ⟨rfl, by rw [hrecs]; rfl, ⟨hwin1, he, hst1, hb⟩, fun _ => herr⟩)⟩
    · exact ⟨r1, _, by simp only [enter, hf.st, hinit], hfr1,
        Or.inr (Or.inr ⟨ln, c, rfl, hf.st, ⟨hwin1, he, hst1, hb⟩, hrecs, herr⟩)⟩
  | parsing hp hst0 =>
    exact ⟨{ incRec r with state := st }, _,
      by simp only [enter, hst0, incrementRecord_eq r hp.start_le], ⟨rfl, rfl⟩,
      Or.inl ⟨rfl, ready_incRec hp st hst, Or.inl rfl, fun h => by rw [hst0] at h; cases h⟩⟩
  | ready hr hst' =>
    rcases hst' with h | h
    · exact ⟨{ r with state := st }, _, by simp only [enter, h], ⟨rfl, rfl⟩,
        Or.inl ⟨rfl, hr.withState st hst, Or.inl rfl, fun h' => by rw [h] at h'; cases h'⟩⟩
    · exact ⟨r, _, by simp only [enter, h], Frame.refl r,
        Or.inl ⟨rfl, hr, Or.inr h, fun h' => by rw [h] at h'; cases h'⟩⟩
  | finished hfin hk =>
    exact ⟨r, _, by simp only [enter, hfin.st], Frame.refl r,
      Or.inr (Or.inl ⟨rfl, hk, hfin, fun h => by rw [hfin.st] at h; cases h⟩)⟩

/-- one `next` call from any reachable state -/
theorem next_rinv {inp : List UInt8} {r : Reader} {k fuel : Nat} (h : RInv inp r k)
    (hfuel : inp.length < fuel) :
    ∃ r' res, next fuel r = (r', res) ∧ Frame r r' ∧
      (RecOut inp k r.pol r' res ∨
       (res = .ok false ∧ k = (recsOf inp).length ∧ Fin inp r' ∧
          (r.state = .new → (items inp).err = none)) ∨
       (∃ ln c, res = .err (.invalidStart ln c) ∧ r.state = .new ∧ Fin inp r' ∧ recsOf inp = [] ∧
          (items inp).err = some (.invalidStart ln c))) := by
  obtain ⟨r1, res1, hent, hfr1, hcase⟩ := enter_rinv h hfuel .parsing (by intro h; cases h)
  rw [next_enter, hent]
  rcases hcase with ⟨rfl, hr1, hst1, -⟩ | ⟨rfl, rest⟩ | ⟨ln, c, rfl, rest⟩
  · obtain ⟨r', res, hnc, hfr', hout⟩ := nextCont_out hr1 hst1 hfuel
    exact ⟨r', res, hnc, hfr1.trans hfr', Or.inl (hout.congr hfr1.polf)⟩
  · exact ⟨r1, _, rfl, hfr1, Or.inr (Or.inl ⟨rfl, rest⟩)⟩
  · exact ⟨r1, _, rfl, hfr1, Or.inr (Or.inr ⟨ln, c, rfl, rest⟩)⟩

end SeqIo.Fasta.Hist
