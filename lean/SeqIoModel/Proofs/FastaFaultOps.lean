import SeqIoModel.Proofs.FastaFaultSim
import SeqIoModel.Proofs.FastaOps
import SeqIoModel.Proofs.FastaStreamInv
/-!
# Source failures: the reader operations of the two machines side by side

`rws r s` is the reader `r` with the script `s`.  Operations that do not read the source commute
with `rws`; those that do are related by `Sim`.
-/
open SeqIo SeqIo.FillProofs SeqIo.Spec

namespace SeqIo.Fasta.Fault

def rws (r : Reader) (s : List ReadEv) : Reader := { r with br := bws r.br s }

@[simp] theorem rws_br (r : Reader) (s : List ReadEv) : (rws r s).br = bws r.br s := rfl
@[simp] theorem rws_state (r : Reader) (s : List ReadEv) : (rws r s).state = r.state := rfl
@[simp] theorem rws_bp (r : Reader) (s : List ReadEv) : (rws r s).bp = r.bp := rfl
@[simp] theorem rws_searchPos (r : Reader) (s : List ReadEv) : (rws r s).searchPos = r.searchPos := rfl
@[simp] theorem rws_line (r : Reader) (s : List ReadEv) : (rws r s).line = r.line := rfl
@[simp] theorem rws_byte (r : Reader) (s : List ReadEv) : (rws r s).byte = r.byte := rfl
@[simp] theorem rws_pol (r : Reader) (s : List ReadEv) : (rws r s).pol = r.pol := rfl
@[simp] theorem rws_log (r : Reader) (s : List ReadEv) : (rws r s).log = r.log := rfl
@[simp] theorem rws_rws (r : Reader) (s t : List ReadEv) : rws (rws r s) t = rws r t := rfl

/-! ## operations that do not read the source commute with a change of the script -/

theorem rws_set_br (r : Reader) (s t : List ReadEv) (b : BufRd) :
    { rws r s with br := bws b t } = rws { r with br := b } t := rfl

theorem leave_rws (r : Reader) (s : List ReadEv) (st : State) :
    (if (rws r s).state ≠ .finished then { rws r s with state := st } else rws r s) =
      rws (if r.state ≠ .finished then { r with state := st } else r) s := by
  show (if r.state ≠ .finished then _ else _) = _
  split <;> rfl

theorem search_rws (r : Reader) (s : List ReadEv) :
    search (rws r s) = (search r).map fun q => (rws q.1 s, q.2) := by
  unfold search search_
  simp only [rws_searchPos, rws_br, rws_bp, bws_buf]
  by_cases h : r.searchPos ≤ r.br.buf.length
  · simp only [h, if_true]
    cases (scan (r.br.buf.drop r.searchPos) r.searchPos r.bp.seqPos).1 with
    | true => rfl
    | false =>
      by_cases hc : r.br.buf.length < r.br.cap <;> simp only [bws_buf, bws_cap, hc, if_true, if_false] <;> rfl
  · simp only [h, if_false]
    rfl

theorem reserve_bws (b : BufRd) (a : Nat) (s : List ReadEv) :
    (bws b s).reserve a = bws (b.reserve a) s := by
  unfold BufRd.reserve
  simp only [bws_cap, bws_buf]
  by_cases h1 : a ≤ b.cap - b.buf.length
  · simp only [h1, if_true]
  · by_cases h2 : b.buf.isEmpty = true <;> simp only [h1, h2, if_true, if_false] <;> rfl

theorem grow_rws (r : Reader) (s : List ReadEv) :
    grow (rws r s) = (rws (grow r).1 s, (grow r).2) := by
  unfold grow
  simp only [rws_pol, rws_br, bws_cap, rws_log]
  cases (r.pol.growTo r.br.cap).1 with
  | none => rfl
  | some n =>
    dsimp only
    cases csub n r.br.cap with
    | none => rfl
    | some add => simp only [reserve_bws]; rfl

theorem makeRoom_rws (r : Reader) (s : List ReadEv) :
    makeRoom (rws r s) = (makeRoom r).map (rws · s) := by
  unfold makeRoom
  simp only [rws_searchPos, rws_bp]
  cases csub r.searchPos r.bp.start with
  | none => rfl
  | some sp => cases mapSub r.bp.start r.bp.seqPos <;> rfl

theorem step1_rws (mk : Bool) (r : Reader) (s : List ReadEv) :
    Hist.step1 mk (rws r s) = (rws (Hist.step1 mk r).1 s, (Hist.step1 mk r).2) := by
  unfold Hist.step1
  rw [grow_rws, makeRoom_rws]
  show (if (!mk || decide (r.bp.start = 0)) = true then _ else _) = _
  by_cases hc : (!mk || decide (r.bp.start = 0)) = true
  · simp only [if_pos hc]
  · simp only [if_neg hc]
    cases makeRoom r <;> rfl

theorem incrementRecord_rws (r : Reader) (s : List ReadEv) :
    incrementRecord (rws r s) = (incrementRecord r).map (rws · s) := by
  unfold incrementRecord
  simp only [rws_searchPos, rws_bp]
  cases csub r.searchPos r.bp.start <;> rfl

theorem storeStep_rws (n : Option Nat) (r : Reader) (rs : RecordSet) (s : List ReadEv) :
    storeStep n (rws r s) rs = (storeStep n r rs).map fun q => (rws q.1 s, q.2) := by
  unfold storeStep
  simp only [incrementRecord_rws, rws_bp]
  cases incrementRecord r <;> rfl

/-! ## operations that read the source -/

/-- `x` is what the failing machine gets and `x'` what the clean machine gets from the same call:
the same result in states that differ in the script only, or the failing machine's result is the
first failing event (`io`) -/
def Sim (p : Par) {γ : Type} (io : γ → Prop) (x x' : Reader × γ) : Prop :=
  (∃ r c y, NoFail y ∧ x = (rws r (y ++ p.tail), c) ∧ x' = (rws r (y ++ p.T), c)) ∨
  ∃ r c, x = (r, c) ∧ io c

theorem Sim.same {p : Par} {γ : Type} {io : γ → Prop} {r : Reader} {c : γ} {y : List ReadEv}
    (hy : NoFail y) : Sim p io (rws r (y ++ p.tail), c) (rws r (y ++ p.T), c) :=
  Or.inl ⟨r, c, y, hy, rfl, rfl⟩

/-- the same with the failing machine's reader `r` as it stands in a goal, where it is not literally
of the form `rws _ _`: that its script is `y ++ p.tail` is then `rfl` -/
theorem Sim.mk {p : Par} {γ : Type} {io : γ → Prop} {r : Reader} {c : γ} {y : List ReadEv}
    (hy : NoFail y) (hs : r.br.src.script = y ++ p.tail) : Sim p io (r, c) (rws r (y ++ p.T), c) :=
  Or.inl ⟨r, c, y, hy, by rw [← hs]; rfl, rfl⟩

theorem Sim.io {p : Par} {γ : Type} {io : γ → Prop} {r : Reader} {c : γ} {x' : Reader × γ}
    (h : io c) : Sim p io (r, c) x' :=
  Or.inr ⟨r, c, rfl, h⟩

theorem Sim.ite {p : Par} {γ : Type} {io : γ → Prop} {c : Prop} [Decidable c] {a b a' b' : Reader × γ}
    (h1 : c → Sim p io a a') (h2 : ¬ c → Sim p io b b') :
    Sim p io (if c then a else b) (if c then a' else b') := by
  split
  · exact h1 ‹_›
  · exact h2 ‹_›

abbrev SimR (p : Par) {α : Type} (x x' : Reader × Res α) : Prop :=
  Sim p (· = .err (.io p.k)) x x'

theorem firstByte_sim (p : Par) : ∀ (fu : Nat) (r : Reader) (y : List ReadEv), NoFail y →
    SimR p (firstByte fu (rws r (y ++ p.tail))) (firstByte fu (rws r (y ++ p.T))) := by
  intro fu
  induction fu with
  | zero => intro r y hy; exact .same hy
  | succ f ih =>
    intro r y hy
    rcases fillBuf_sim p r.br y hy with ⟨b', y', n, hy', h1, h2⟩ | ⟨b', h1⟩
    · by_cases hn0 : n = 0
      · subst hn0
        rw [firstByte_succ_zero f (rws r _) _ h1, firstByte_succ_zero f (rws r _) _ h2]
        exact .mk hy' rfl
      · rw [firstByte_succ_ok f (rws r _) _ n hn0 h1, firstByte_succ_ok f (rws r _) _ n hn0 h2]
        simp only [bws_buf, rws_line]
        cases scanBlank (splitLF b'.buf) r.line 0 0 with
        | inl x => exact .mk hy' rfl
        | inr x =>
          obtain ⟨ln, pos, ll⟩ := x
          dsimp only
          cases csub pos (1 + ll) with
          | none => exact .mk hy' rfl
          | some c =>
            cases csub ln 1 with
            | none => exact .mk hy' rfl
            | some l1 =>
              exact ih { r with line := l1, byte := r.byte + c, br := b'.consume c } y' hy'
    · rw [firstByte_succ_err f (rws r _) b' p.k h1]
      exact .io rfl

theorem init_sim (p : Par) (fu : Nat) (r : Reader) (y : List ReadEv) (hy : NoFail y) :
    SimR p (init fu (rws r (y ++ p.tail))) (init fu (rws r (y ++ p.T))) := by
  unfold init
  rcases firstByte_sim p fu r y hy with ⟨r1, c, y', hy', h, h'⟩ | ⟨r1, _, h, rfl⟩
  · rw [h, h']
    cases c with
    | ok o =>
      cases o with
      | none => exact .mk hy' rfl
      | some x =>
        exact .ite (fun _ => .mk hy' rfl) fun _ => .mk hy' rfl
    | _ => exact .same hy'
  · rw [h]
    exact .io rfl

theorem resume_sim (p : Par) (mk : Bool) : ∀ (fu : Nat) (r : Reader) (y : List ReadEv), NoFail y →
    SimR p (resume fu mk (rws r (y ++ p.tail))) (resume fu mk (rws r (y ++ p.T))) := by
  intro fu
  induction fu with
  | zero => intro r y hy; exact .same hy
  | succ f ih =>
    intro r y hy
    rw [Hist.resume_unfold, Hist.resume_unfold, step1_rws, step1_rws]
    rcases Hist.step1 mk r with ⟨r1, res1⟩
    cases res1 with
    | ok u =>
      simp only [rws_br]
      rcases fillBuf_sim p r1.br y hy with ⟨b', y', n, hy', h1, h2⟩ | ⟨b', h1⟩
      · rw [h1, h2]
        simp only [rws_set_br, search_rws]
        rcases search { r1 with br := b' } with _ | ⟨r2, fnd⟩
        · exact .same hy
        · cases fnd with
          | true => exact .same hy'
          | false => exact ih r2 y' hy'
      · rw [h1]
        exact .io rfl
    | _ => exact .same hy

theorem nextTail_sim (p : Par) (fu : Nat) (r : Reader) (y : List ReadEv) (hy : NoFail y) :
    SimR p (nextTail fu (rws r (y ++ p.tail))) (nextTail fu (rws r (y ++ p.T))) := by
  unfold nextTail
  refine .ite (fun _ => ?_) fun _ => .same hy
  rcases resume_sim p true fu r y hy with ⟨r2, c, y', hy', h, h'⟩ | ⟨r2, _, h, rfl⟩
  · rw [h, h']
    cases c with
    | ok b =>
      cases b with
      | true =>
        dsimp only
        rw [leave_rws, leave_rws]
        exact .same hy'
      | false => exact .same hy'
    | _ => exact .same hy'
  · rw [h]
    exact .io rfl

theorem nextCont_sim (p : Par) (fu : Nat) (r : Reader) (y : List ReadEv) (hy : NoFail y) :
    SimR p (nextCont fu (rws r (y ++ p.tail))) (nextCont fu (rws r (y ++ p.T))) := by
  by_cases hinc : r.state = .incomplete
  · have e := fun s => nextCont_of_incomplete (fu := fu) (r := rws r s) hinc
    rw [e, e]
    exact nextTail_sim p fu r y hy
  · have e := fun s => nextCont_of_search (fu := fu) (r := rws r s) hinc
    rw [e, e, search_rws, search_rws]
    rcases search r with _ | ⟨r1, f⟩
    · exact .same hy
    · exact nextTail_sim p fu r1 y hy

theorem enter_sim (p : Par) (fu : Nat) (st : State) (r : Reader) (y : List ReadEv) (hy : NoFail y) :
    SimR p (enter fu st (rws r (y ++ p.tail))) (enter fu st (rws r (y ++ p.T))) := by
  unfold enter
  simp only [rws_state]
  cases r.state with
  | new =>
    dsimp only
    rcases init_sim p fu r y hy with ⟨r1, c, y', hy', h, h'⟩ | ⟨r1, _, h, rfl⟩
    · rw [h, h']
      cases c with
      | ok b => cases b <;> exact .mk hy' rfl
      | _ => exact .same hy'
    · rw [h]
      exact .io rfl
  | parsing =>
    simp only [incrementRecord_rws]
    cases incrementRecord r <;> exact .mk hy rfl
  | positioned => exact .mk hy rfl
  | _ => exact .same hy

theorem next_sim (p : Par) (fu : Nat) (r : Reader) (y : List ReadEv) (hy : NoFail y) :
    SimR p (next fu (rws r (y ++ p.tail))) (next fu (rws r (y ++ p.T))) := by
  rw [next_enter, next_enter]
  rcases enter_sim p fu .parsing r y hy with ⟨r1, c, y', hy', h, h'⟩ | ⟨r1, _, h, rfl⟩
  · rw [h, h']
    cases c with
    | ok b =>
      cases b with
      | true => exact nextCont_sim p fu r1 y' hy'
      | false => exact .same hy'
    | _ => exact .same hy'
  · rw [h]
    exact .io rfl

/-! ## record set reads -/

abbrev SimR3 (p : Par) (x x' : Reader × RecordSet × Res Bool) : Prop :=
  Sim p (·.2 = .err (.io p.k)) x x'

theorem setLoop_sim (p : Par) (fu : Nat) (n : Option Nat) : ∀ (f : Nat) (isNew : Bool) (r : Reader)
    (rs : RecordSet) (y : List ReadEv), NoFail y →
    SimR3 p (setLoop f fu n isNew (rws r (y ++ p.tail)) rs) (setLoop f fu n isNew (rws r (y ++ p.T)) rs) := by
  intro f
  induction f with
  | zero => intro isNew r rs y hy; exact .same hy
  | succ f ih =>
    intro isNew r rs y hy
    have hstore : ∀ (r1 : Reader) (y1 : List ReadEv), NoFail y1 →
        SimR3 p (storeK f fu n isNew (rws r1 (y1 ++ p.tail)) rs)
          (storeK f fu n isNew (rws r1 (y1 ++ p.T)) rs) := by
      intro r1 y1 hy1
      unfold storeK
      simp only [storeStep_rws]
      rcases storeStep n r1 rs with _ | ⟨r2, rs2, b⟩
      · exact .same hy1
      · cases b with
        | true => exact .same hy1
        | false => exact ih isNew r2 rs2 y1 hy1
    rw [setLoop_eq, setLoop_eq]
    refine .ite (fun _ => .same hy) fun _ => .ite (fun _ => ?_) fun _ => ?_
    · rcases resume_sim p isNew fu r y hy with ⟨r2, c, y', hy', h, h'⟩ | ⟨r2, _, h, rfl⟩
      · rw [h, h']
        cases c with
        | ok b =>
          cases b with
          | true =>
            dsimp only
            rw [leave_rws, leave_rws]
            exact hstore _ y' hy'
          | false => exact .same hy'
        | _ => exact .same hy'
      · rw [h]
        exact .io rfl
    · rw [search_rws, search_rws]
      rcases search r with _ | ⟨r1, fnd⟩
      · exact .same hy
      · cases fnd with
        | true => exact hstore r1 y hy
        | false =>
          show SimR3 p (afterMiss f fu n isNew (rws r1 (y ++ p.tail)) rs)
            (afterMiss f fu n isNew (rws r1 (y ++ p.T)) rs)
          unfold afterMiss
          refine .ite (fun _ => ih isNew r1 rs y hy) fun _ => ?_
          cases n with
          | none => exact .same hy
          | some n' => exact .ite (fun _ => ih false r1 rs y hy) fun _ => .same hy

theorem readSet_sim (p : Par) (fu : Nat) (r : Reader) (rs : RecordSet) (n : Option Nat)
    (y : List ReadEv) (hy : NoFail y) :
    SimR3 p (readRecordSetExact fu (rws r (y ++ p.tail)) rs n)
      (readRecordSetExact fu (rws r (y ++ p.T)) rs n) := by
  rw [readSet_enter, readSet_enter]
  unfold setPost
  rcases enter_sim p fu .positioned r y hy with ⟨r1, c, y', hy', h, h'⟩ | ⟨r1, _, h, rfl⟩
  · rw [h, h']
    cases c with
    | ok b =>
      cases b with
      | true =>
        dsimp only
        rcases setLoop_sim p fu n fu true r1 { rs with npos := 0 } y' hy' with
          ⟨r2, ⟨rs2, c2⟩, y2, hy2, h2, h2'⟩ | ⟨r2, ⟨rs2, _⟩, h2, rfl⟩
        · rw [h2, h2']
          cases c2 with
          | ok b2 => cases b2 <;> exact .same hy2
          | _ => exact .same hy2
        · rw [h2]
          exact .io rfl
      | false => exact .same hy'
    | _ => exact .same hy'
  · rw [h]
    exact .io rfl

/-! ## `seek` -/

theorem src_seek_script (src : Src) (to : Nat) (s : List ReadEv) :
    Src.seek { src with script := s } to = ({ (src.seek to).1 with script := s }, (src.seek to).2) := by
  cases hf : src.seekFails.find? (·.1 = src.seekCount) with
  | none => simp only [Src.seek, hf]
  | some q => simp only [Src.seek, hf]

theorem seek_bws (b : BufRd) (to : Nat) (s : List ReadEv) :
    (bws b s).seek to = (bws (b.seek to).1 s, (b.seek to).2) := by
  unfold BufRd.seek
  simp only [bws, src_seek_script]
  rcases b.src.seek to with ⟨src', ok⟩
  cases ok <;> rfl

theorem seek_sim (p : Par) (r : Reader) (l b : Nat) (y : List ReadEv) (hy : NoFail y) :
    SimR p (seek (rws r (y ++ p.tail)) l b) (seek (rws r (y ++ p.T)) l b) := by
  unfold seek
  simp only [rws_bp, rws_byte, rws_br, bws_buf, bws_cap, seek_bws]
  by_cases hin : 0 ≤ (r.bp.start : Int) + ((b : Int) - (r.byte : Int)) ∧
      (r.bp.start : Int) + ((b : Int) - (r.byte : Int)) < (r.br.buf.length : Int)
  · -- inside the buffer, which is completed first
    simp only [hin]
    by_cases hc : r.br.buf.length < r.br.cap
    · simp only [hc, if_true]
      rcases fillBuf_sim p r.br y hy with ⟨b', y', n, hy', h1, h2⟩ | ⟨b', h1⟩
      · rw [h1, h2]
        exact .mk hy' rfl
      · rw [h1]
        exact .io rfl
    · simp only [hc, if_false]
      exact .mk hy rfl
  · -- a seek of the source and a refill
    simp only [hin, if_false]
    rcases r.br.seek b with ⟨b1, ok⟩
    cases ok with
    | some kk => exact .mk hy rfl
    | none =>
      dsimp only
      rcases fillBuf_sim p b1 y hy with ⟨b', y', n, hy', h1, h2⟩ | ⟨b', h1⟩
      · rw [h1, h2]
        exact .mk hy' rfl
      · rw [h1]
        exact .io rfl

end SeqIo.Fasta.Fault
