import SeqIoModel.Proofs.FastaFaultOps
import SeqIoModel.Proofs.FastaHistory
import SeqIoModel.Proofs.AbstractReader
/-!
# C14 at reader level: the first source failure surfaces in the call that hits it

The machine with script `y ++ fail k :: rest` is run beside the one with the clean script `y ++ T`
(`FastaFaultSim`, `FastaFaultOps`).  Up to the refill that reaches the failing event the two agree,
so the observations before the first `Err(Io(_))` are those of a failure-free run, which A accepts
(`fasta_history_accepted`), and that error carries `k`.
-/
open SeqIo SeqIo.FillProofs SeqIo.Spec SeqIo.Fasta.Hist

namespace SeqIo.Fasta.Fault

def mws (m : MSt) (s : List ReadEv) : MSt := { m with r := rws m.r s }

/-- the failing machine `m` and the clean machine `m'` -/
def SimM (p : Par) (m m' : MSt) : Prop :=
  ∃ m0 y, NoFail y ∧ m = mws m0 (y ++ p.tail) ∧ m' = mws m0 (y ++ p.T)

theorem fuelOf_rws (p : Par) (r : Reader) (y : List ReadEv) :
    fuelOf (rws r (y ++ p.T)) = fuelOf (rws r (y ++ p.tail)) := by
  simp only [fuelOf, rws, bws, List.length_append, p.tail_len]

def StepSim (p : Par) (x x' : MSt × ObsH) : Prop :=
  (x.2 = x'.2 ∧ SimM p x.1 x'.1) ∨ x.2 = .error (.io p.k)

theorem step_sim (p : Par) (m m' : MSt) (h : SimM p m m') (op : Op) :
    StepSim p (stepM m op) (stepM m' op) := by
  obtain ⟨m, y, hy, rfl, rfl⟩ := h
  cases op with
  | next | owned =>
    simp only [stepM, mws, fuelOf_rws]
    rcases next_sim p (fuelOf (rws m.r (y ++ p.tail))) m.r y hy with
      ⟨r1, c, y1, hy1, h, h'⟩ | ⟨r1, _, h, rfl⟩
    · rw [h, h']
      refine Or.inl ⟨?_, { m with r := r1 }, y1, hy1, rfl, rfl⟩
      -- the record is looked at in the buffer, which is the same
      cases c with
      | ok b => cases b <;> rfl
      | _ => rfl
    · rw [h]
      exact Or.inr rfl
  | pos => exact Or.inl ⟨rfl, m, y, hy, rfl, rfl⟩
  | dump j =>
    simp only [stepM, mws]
    cases m.sets[j]? <;> exact Or.inl ⟨rfl, m, y, hy, rfl, rfl⟩
  | seekRec i =>
    have hinp : ∀ s, (rws m.r s).br.src.inp = m.r.br.src.inp := fun _ => rfl
    simp only [stepM, mws, hinp]
    cases (items m.r.br.src.inp).recs[i]? with
    | none => exact Or.inl ⟨rfl, m, y, hy, rfl, rfl⟩
    | some rc =>
      dsimp only
      rcases seek_sim p m.r rc.line rc.byte y hy with ⟨r1, c, y1, hy1, h, h'⟩ | ⟨r1, _, h, rfl⟩
      · rw [h, h']
        exact Or.inl ⟨rfl, { m with r := r1 }, y1, hy1, rfl, rfl⟩
      · rw [h]
        exact Or.inr rfl
  | set j n =>
    by_cases hn : n = some 0
    · subst hn
      exact Or.inl ⟨rfl, m, y, hy, rfl, rfl⟩
    · have hsets : ∀ s, (mws m s).sets[j]? = m.sets[j]? := fun _ => rfl
      cases hj : m.sets[j]? with
      | none =>
        rw [stepM_set_none hn ((hsets _).trans hj), stepM_set_none hn ((hsets _).trans hj)]
        exact Or.inl ⟨rfl, m, y, hy, rfl, rfl⟩
      | some rs =>
        rw [stepM_set_some hn ((hsets _).trans hj), stepM_set_some hn ((hsets _).trans hj)]
        simp only [mws, fuelOf_rws]
        rcases readSet_sim p (fuelOf (rws m.r (y ++ p.tail))) m.r rs n y hy with
          ⟨r1, ⟨rs1, c⟩, y1, hy1, h, h'⟩ | ⟨r1, ⟨rs1, _⟩, h, rfl⟩
        · rw [h, h']
          exact Or.inl ⟨rfl, { r := r1, sets := m.sets.set j rs1 }, y1, hy1, rfl, rfl⟩
        · rw [h]
          exact Or.inr rfl

/-! ## whole histories -/

def endM (m : MSt) : List Op → MSt
  | [] => m
  | op :: ops => endM (stepM m op).1 ops

/-- the two machines agree up to the operation that hits the failing event; if there is none, the
failing event is still in the script -/
theorem run_sim (p : Par) : ∀ (ops : List Op) (m m' : MSt), SimM p m m' →
    ∃ j, (runM m ops).take j = (runM m' ops).take j ∧
      (j < ops.length ∧ (runM m ops)[j]? = some (.error (.io p.k)) ∨
       j = ops.length ∧ ∃ y, NoFail y ∧ (endM m ops).r.br.src.script = y ++ p.tail) := by
  intro ops
  induction ops with
  | nil =>
    intro m m' h
    obtain ⟨m0, y, hy, rfl, _⟩ := h
    exact ⟨0, rfl, Or.inr ⟨rfl, y, hy, rfl⟩⟩
  | cons op ops ih =>
    intro m m' h
    rcases step_sim p m m' h op with ⟨hobs, hsim⟩ | hio
    · obtain ⟨j, htake, hcase⟩ := ih _ _ hsim
      refine ⟨j + 1, ?_, ?_⟩
      · rw [runM, runM, List.take_succ_cons, List.take_succ_cons, hobs, htake]
      · rw [runM, List.getElem?_cons_succ]
        rcases hcase with ⟨hlt, hk⟩ | ⟨hje, hend⟩
        · exact Or.inl ⟨Nat.succ_lt_succ hlt, hk⟩
        · exact Or.inr ⟨congrArg Nat.succ hje, hend⟩
    · -- not `rfl`: that would first try to identify the two histories
      refine ⟨0, List.take_zero.trans List.take_zero.symm, Or.inl ⟨Nat.succ_pos _, ?_⟩⟩
      rw [runM, List.getElem?_cons_zero, hio]

def isIoErr : ObsH → Bool
  | .error (.io _) => true
  | _ => false

theorem runA_cons_inv {it : Items} {a : AState} {op : Op} {ops : List Op} {os : List ObsH}
    (h : runA it a (op :: ops) os = true) :
    ∃ o os' a', os = o :: os' ∧ acceptA it a op o = some a' ∧ runA it a' ops os' = true := by
  cases os with
  | nil => cases h
  | cons o os' =>
    rw [runA] at h
    cases hacc : acceptA it a op o with
    | none => rw [hacc] at h; cases h
    | some a' => rw [hacc] at h; exact ⟨o, os', a', rfl, hacc, h⟩

theorem runA_take (it : Items) : ∀ (ops : List Op) (os : List ObsH) (a : AState) (j : Nat),
    runA it a ops os = true → runA it a (ops.take j) (os.take j) = true := by
  intro ops
  induction ops with
  | nil =>
    intro os a j h
    cases os with
    | nil => cases j <;> rfl
    | cons _ _ => cases h
  | cons op ops ih =>
    intro os a j h
    obtain ⟨o, os, a', rfl, hacc, h'⟩ := runA_cons_inv h
    cases j with
    | zero => rfl
    | succ j =>
      rw [List.take_succ_cons, List.take_succ_cons, runA, hacc]
      exact ih os a' j h'

/-- A never accepts an I/O error: the only error it expects is the format error S assigns to the
input (`accepted_error_once`) -/
theorem accept_not_io (inp : List UInt8) (a a' : AState) (op : Op) (o : ObsH)
    (h : acceptA (items inp) a op o = some a') : isIoErr o = false := by
  cases hio : isIoErr o with
  | false => rfl
  | true =>
    unfold isIoErr at hio
    split at hio
    · rename_i k
      have hex : execA (items inp) a ([] ++ [op]) ([] ++ [.error (.io k)]) = some a' := by
        simp only [List.nil_append, execA, h]
      have herr := (accepted_error_once rfl hex).1
      unfold items at herr
      split at herr <;> cases herr
    · cases hio

theorem runA_no_io (inp : List UInt8) : ∀ (ops : List Op) (os : List ObsH) (a : AState),
    runA (items inp) a ops os = true → ∀ o ∈ os, isIoErr o = false := by
  intro ops
  induction ops with
  | nil =>
    intro os a h o ho
    cases os with
    | nil => cases ho
    | cons _ _ => cases h
  | cons op ops ih =>
    intro os a h o ho
    obtain ⟨o1, os, a', rfl, hacc, h'⟩ := runA_cons_inv h
    rcases List.mem_cons.mp ho with rfl | ho
    · exact accept_not_io inp a a' op _ hacc
    · exact ih os a' h' o ho

/-! ## the theorems -/

theorem first_fail_split (script : List ReadEv) :
    NoFail script ∨ ∃ y k rest, script = y ++ ReadEv.fail k :: rest ∧ NoFail y := by
  induction script with
  | nil => exact Or.inl noFail_nil
  | cons e s ih =>
    by_cases he : ∃ k, e = .fail k
    · obtain ⟨k, rfl⟩ := he
      exact Or.inr ⟨[], k, s, rfl, noFail_nil⟩
    · have hc : ∀ {y}, NoFail y → NoFail (e :: y) := fun hy x hx k hk => by
        rcases List.mem_cons.mp hx with rfl | hx
        · exact he ⟨k, hk⟩
        · exact hy x hx k hk
      rcases ih with h | ⟨y, k, rest, rfl, hy⟩
      · exact Or.inl (hc h)
      · exact Or.inr ⟨e :: y, k, rest, rfl, hc hy⟩

theorem noFail_replicate_intr (n : Nat) : NoFail (List.replicate n ReadEv.intr) := by
  intro e he k
  rw [(List.mem_replicate.mp he).2]
  exact ReadEv.noConfusion

theorem runM_length : ∀ (ops : List Op) (m : MSt), (runM m ops).length = ops.length
  | [], _ => rfl
  | op :: ops, m => congrArg Nat.succ (runM_length ops (stepM m op).1)

def parOf (k : IoKind) (rest : List ReadEv) : Par :=
  { k := k, rest := rest, T := List.replicate (rest.length + 1) .intr,
    nofail := noFail_replicate_intr _, len := List.length_replicate }

/-- the core: beside a clean machine whose history A accepts, the failing machine's history is
accepted up to some operation `j`, which observes the first failing event; if there is no such
operation the failing event has not been consumed -/
theorem fault_core (p : Par) (inp : List UInt8) (ops : List Op) (m m' : MSt) (h : SimM p m m')
    (hacc : runA (items inp) aInit ops (runM m' ops) = true) :
    ∃ j, runA (items inp) aInit (ops.take j) ((runM m ops).take j) = true ∧
      (∀ i o, i < j → (runM m ops)[i]? = some o → isIoErr o = false) ∧
      (j < ops.length ∧ (runM m ops)[j]? = some (.error (.io p.k)) ∨
       j = ops.length ∧ ∃ y, NoFail y ∧ (endM m ops).r.br.src.script = y ++ p.tail) := by
  obtain ⟨j, htake, hcase⟩ := run_sim p ops m m' h
  refine ⟨j, ?_, fun i o hi ho => ?_, hcase⟩
  · rw [htake]
    exact runA_take _ ops _ aInit j hacc
  · rw [← List.getElem?_take_of_lt hi, htake, List.getElem?_take_of_lt hi] at ho
    exact runA_no_io inp ops _ aInit hacc o (List.mem_of_getElem? ho)

/-- **C14 at reader level.**  For every input, capacity ≥ 3, `PolGrows` policy, ARBITRARY read
script, chunk limit and every history of operations (including seeks to record positions):
(a) the observations before the first `Err(Io(_))` are accepted by the abstract reader A – the
records delivered before the failure are exactly the leading records of the input (interrupted
reads, short reads, chunking are invisible); (b) the first `Err(Io(k))` carries the kind of the
FIRST failing event of the script; (c) if no I/O error is observed the whole history is accepted,
and the failing event is still unconsumed in the script (`fasta_fault_not_swallowed`): a failure is
never swallowed, never turned into end of input, a truncated record or a format error; (d) an I/O
error is observed only if the script contains a failing event. -/
theorem fasta_first_fault_surfaces (inp : List UInt8) (cap : Nat) (hcap : 3 ≤ cap) (pol : Pol)
    (hpol : PolGrows pol) (script : List ReadEv) (chunk : Nat) (ops : List Op) :
    -- (c) no I/O error observed: the whole history is accepted
    ((∀ o ∈ runM (mkMSt inp cap pol script chunk) ops, isIoErr o = false) →
      runA (items inp) aInit ops (runM (mkMSt inp cap pol script chunk) ops) = true) ∧
    -- (a), (b) the first I/O error: everything before it is accepted, and it carries the kind of
    -- the first failing event of the script
    (∀ j o, (runM (mkMSt inp cap pol script chunk) ops)[j]? = some o → isIoErr o = true →
      (∀ i o', i < j → (runM (mkMSt inp cap pol script chunk) ops)[i]? = some o' →
        isIoErr o' = false) →
      runA (items inp) aInit (ops.take j) ((runM (mkMSt inp cap pol script chunk) ops).take j) = true ∧
      ∃ used k rest, script = used ++ .fail k :: rest ∧ NoFail used ∧ o = .error (.io k)) ∧
    -- (d) no failing event in the script: no I/O error is ever observed
    (NoFail script → ∀ o ∈ runM (mkMSt inp cap pol script chunk) ops, isIoErr o = false) := by
  have hd : NoFail script → ∀ o ∈ runM (mkMSt inp cap pol script chunk) ops, isIoErr o = false :=
    fun hs => runA_no_io inp ops _ aInit (fasta_history_accepted inp cap hcap pol hpol script hs chunk ops)
  rcases first_fail_split script with hs | ⟨y, k, rest, rfl, hy⟩
  · refine ⟨fun _ => fasta_history_accepted inp cap hcap pol hpol script hs chunk ops, ?_, hd⟩
    intro j o ho hio _
    rw [hd hs o (List.mem_of_getElem? ho)] at hio
    cases hio
  · obtain ⟨j0, hacc, hnoio, hcase⟩ :=
      fault_core (parOf k rest) inp ops (mkMSt inp cap pol (y ++ .fail k :: rest) chunk) _
        ⟨mkMSt inp cap pol [] chunk, y, hy, rfl, rfl⟩
        (fasta_history_accepted inp cap hcap pol hpol (y ++ (parOf k rest).T)
          (noFail_append hy (parOf k rest).nofail) chunk ops)
    have hlen := runM_length ops (mkMSt inp cap pol (y ++ .fail k :: rest) chunk)
    refine ⟨fun hall => ?_, fun j o ho hio hfirst => ?_, hd⟩
    · rcases hcase with ⟨_, hk⟩ | ⟨rfl, _⟩
      · cases hall _ (List.mem_of_getElem? hk)
      · rw [List.take_length, List.take_of_length_le (Nat.le_of_eq hlen)] at hacc
        exact hacc
    · have hge : j0 ≤ j := Nat.le_of_not_lt fun h => by
        rw [hnoio j o h ho] at hio
        cases hio
      rcases hcase with ⟨_, hk⟩ | ⟨rfl, _⟩
      · have hjj : j = j0 := Nat.le_antisymm (Nat.le_of_not_lt fun h => by cases hfirst j0 _ h hk) hge
        subst hjj
        rw [hk] at ho
        cases ho
        exact ⟨hacc, y, k, rest, rfl, hy, rfl⟩
      · have := (List.getElem?_eq_some_iff.mp ho).1
        omega

/-- a failure is never swallowed: if no I/O error has been observed, the first failing event of
the script has not been consumed by any read -/
theorem fasta_fault_not_swallowed (inp : List UInt8) (cap : Nat) (hcap : 3 ≤ cap) (pol : Pol)
    (hpol : PolGrows pol) (y : List ReadEv) (hy : NoFail y) (k : IoKind) (rest : List ReadEv)
    (chunk : Nat) (ops : List Op)
    (hall : ∀ o ∈ runM (mkMSt inp cap pol (y ++ .fail k :: rest) chunk) ops, isIoErr o = false) :
    ∃ y', NoFail y' ∧
      (endM (mkMSt inp cap pol (y ++ .fail k :: rest) chunk) ops).r.br.src.script =
        y' ++ .fail k :: rest := by
  obtain ⟨j0, _, _, hcase⟩ :=
    fault_core (parOf k rest) inp ops (mkMSt inp cap pol (y ++ .fail k :: rest) chunk) _
      ⟨mkMSt inp cap pol [] chunk, y, hy, rfl, rfl⟩
      (fasta_history_accepted inp cap hcap pol hpol (y ++ (parOf k rest).T)
        (noFail_append hy (parOf k rest).nofail) chunk ops)
  rcases hcase with ⟨_, hk⟩ | ⟨_, hend⟩
  · cases hall _ (List.mem_of_getElem? hk)
  · exact hend

end SeqIo.Fasta.Fault
