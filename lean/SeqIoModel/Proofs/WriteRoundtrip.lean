import SeqIoModel.Model.Write
import SeqIoModel.Model.Domain
import SeqIoModel.Proofs.Bytes
/-!
# Writers round-trip through the reference semantics

What `Write.*` emits, `Spec.fasta` / `Spec.fastq` reads back unchanged (under the domain
predicates `HeadOk`, `SeqOk`, `FieldOk`), plus the shape of line wrapping.
-/

open SeqIo SeqIo.Spec SeqIo.Write

namespace SeqIo.WriteProofs

/-! ## FASTA: the reference parser on well-formed lines -/

theorem faGroup_head (h : List UInt8) (hh : h.getLast? ≠ some CR) (ls : List (List UInt8))
    (byte line : Nat) (cur : Option FaRec) :
    faGroup ((GT :: h) :: ls) byte line cur =
      (match cur with
        | none => []
        | some r => [{ r with seqLines := r.seqLines.reverse }]) ++
      faGroup ls (byte + (h.length + 1) + 1) (line + 1)
        (some { byte := byte, line := line, head := h, seqLines := [] }) := by
  cases cur <;> simp [faGroup, trimCr_id _ hh]

theorem faGroup_seqLine_step (c : List UInt8) (hc : CR ∉ c ∧ GT ∉ c) (ls : List (List UInt8))
    (byte line : Nat) (r : FaRec) :
    faGroup (c :: ls) byte line (some r) =
      faGroup ls (byte + c.length + 1) (line + 1) (some { r with seqLines := c :: r.seqLines }) := by
  rw [faGroup, if_neg (head?_ne_of_not_mem c GT hc.2), trimCr_noCR _ hc.1]

theorem faGroup_seqs (cs : List (List UInt8)) (hcs : ∀ c ∈ cs, CR ∉ c ∧ GT ∉ c)
    (rest : List (List UInt8)) (byte line : Nat) (r : FaRec) :
    ∃ byte', faGroup (cs ++ rest) byte line (some r) =
      faGroup rest byte' (line + cs.length) (some { r with seqLines := cs.reverse ++ r.seqLines }) := by
  induction cs generalizing byte line r with
  | nil => exact ⟨byte, by simp⟩
  | cons c cs ih =>
    rw [List.cons_append, faGroup_seqLine_step c (hcs c (by simp))]
    obtain ⟨b', e⟩ := ih (fun x hx => hcs x (by simp [hx])) (byte + c.length + 1) (line + 1)
      { r with seqLines := c :: r.seqLines }
    refine ⟨b', ?_⟩
    rw [e]
    simp only [List.length_cons, List.reverse_cons, List.append_assoc, List.singleton_append]
    congr 1
    omega

theorem fasta_unlines (h : List UInt8) (hh : HeadOk h) (ls : List (List UInt8))
    (hls : ∀ l ∈ ls, LF ∉ l) :
    Spec.fasta (unlines ((GT :: h) :: ls)) = .records (faGroup ((GT :: h) :: ls) 0 1 none) := by
  have hall : ∀ l ∈ (GT :: h) :: ls, LF ∉ l := by
    intro l hl
    rcases List.mem_cons.mp hl with rfl | hl
    · exact List.not_mem_cons_of_ne_of_not_mem (by decide) hh.1
    · exact hls l hl
  unfold Spec.fasta
  rw [lines_unlines _ hall]
  simp [skipBlank, not_blank_GT]

theorem seqOk_line (s : List UInt8) (hs : SeqOk s) : CR ∉ s ∧ GT ∉ s := ⟨hs.2.1, hs.2.2⟩

theorem fasta_one (h : List UInt8) (hh : HeadOk h) (cs : List (List UInt8))
    (hcs : ∀ c ∈ cs, LF ∉ c ∧ CR ∉ c ∧ GT ∉ c) :
    Spec.fasta (unlines ((GT :: h) :: cs)) =
      .records [{ byte := 0, line := 1, head := h, seqLines := cs }] := by
  obtain ⟨b, e⟩ := faGroup_seqs cs (fun c hc => (hcs c hc).2) [] (0 + (h.length + 1) + 1) (1 + 1)
    { byte := 0, line := 1, head := h, seqLines := [] }
  rw [List.append_nil] at e
  rw [fasta_unlines h hh cs (fun l hl => (hcs l hl).1), faGroup_head h hh.2, e]
  simp [faGroup]

theorem faTo_eq_unlines (h s : List UInt8) : Write.faTo h s = unlines [GT :: h, s] := by
  simp [Write.faTo, Write.head, Write.seq, unlines]

theorem fasta_faTo_roundtrip (h s : List UInt8) (hh : HeadOk h) (hs : SeqOk s) :
    ∃ r : FaRec, Spec.fasta (Write.faTo h s) = .records [r] ∧ r.head = h ∧ r.seq = s ∧ r.byte = 0 ∧ r.line = 1 := by
  refine ⟨{ byte := 0, line := 1, head := h, seqLines := [s] }, ?_, rfl, by simp [FaRec.seq], rfl, rfl⟩
  rw [faTo_eq_unlines]
  apply fasta_one h hh
  intro c hc
  simp only [List.mem_singleton] at hc
  subst hc
  exact hs

theorem fasta_faParts_roundtrip (id : List UInt8) (desc : Option (List UInt8)) (s : List UInt8)
    (hh : HeadOk (id ++ (match desc with | some d => SP :: d | none => []))) (hs : SeqOk s) :
    ∃ r : FaRec, Spec.fasta (Write.faParts id desc s) = .records [r] ∧
      r.head = id ++ (match desc with | some d => SP :: d | none => []) ∧ r.seq = s := by
  cases desc <;>
  · obtain ⟨r, h1, h2, h3, _⟩ := fasta_faTo_roundtrip _ s hh hs
    exact ⟨r, by simpa [Write.faParts, Write.idDesc, Write.faTo, Write.head] using h1, h2, h3⟩

/-! ## FASTA: many records -/

/-- the lines that `faTo` writes for the records `(head, seq)`, back to back -/
def faToLines (rs : List (List UInt8 × List UInt8)) : List (List UInt8) :=
  rs.flatMap fun p => [GT :: p.1, p.2]

theorem faToLines_cons (p : List UInt8 × List UInt8) (rs : List (List UInt8 × List UInt8)) :
    faToLines (p :: rs) = (GT :: p.1) :: p.2 :: faToLines rs := by
  simp [faToLines]

theorem many_eq_unlines (rs : List (List UInt8 × List UInt8)) :
    (rs.flatMap fun p => Write.faTo p.1 p.2) = unlines (faToLines rs) := by
  induction rs with
  | nil => rfl
  | cons p rs ih =>
    rw [List.flatMap_cons, ih, faToLines_cons, faTo_eq_unlines]
    simp [unlines]

theorem faGroup_many (rs : List (List UInt8 × List UInt8))
    (hok : ∀ p ∈ rs, HeadOk p.1 ∧ SeqOk p.2) (byte line : Nat) (cur : Option FaRec) :
    ∃ recs : List FaRec,
      faGroup (faToLines rs) byte line cur =
        (match cur with
          | none => []
          | some r => [{ r with seqLines := r.seqLines.reverse }]) ++ recs ∧
      recs.map (fun r => (r.head, r.seq)) = rs := by
  induction rs generalizing byte line cur with
  | nil =>
    refine ⟨[], ?_, rfl⟩
    cases cur <;> simp [faToLines, faGroup]
  | cons p rs ih =>
    have hp := hok p (by simp)
    rw [faToLines_cons, faGroup_head p.1 hp.1.2, faGroup_seqLine_step p.2 (seqOk_line _ hp.2)]
    obtain ⟨recs, h1, h2⟩ := ih (fun x hx => hok x (by simp [hx]))
      (byte + (p.1.length + 1) + 1 + p.2.length + 1) (line + 1 + 1)
      (some { byte := byte, line := line, head := p.1, seqLines := [p.2] })
    refine ⟨{ byte := byte, line := line, head := p.1, seqLines := [p.2] } :: recs, ?_, ?_⟩
    · rw [h1]; simp
    · rw [List.map_cons, h2]; simp [FaRec.seq]

theorem faToLines_noLF (rs : List (List UInt8 × List UInt8))
    (hok : ∀ p ∈ rs, HeadOk p.1 ∧ SeqOk p.2) : ∀ l ∈ faToLines rs, LF ∉ l := by
  intro l hl
  simp only [faToLines, List.mem_flatMap, List.mem_cons, List.not_mem_nil, or_false] at hl
  obtain ⟨p, hp, rfl | rfl⟩ := hl
  · exact List.not_mem_cons_of_ne_of_not_mem (by decide) (hok p hp).1.1
  · exact (hok p hp).2.1

theorem fasta_many_roundtrip (rs : List (List UInt8 × List UInt8))
    (hok : ∀ p ∈ rs, HeadOk p.1 ∧ SeqOk p.2) :
    ∃ recs : List FaRec, Spec.fasta (rs.flatMap fun p => Write.faTo p.1 p.2) = .records recs ∧
      recs.map (fun r => (r.head, r.seq)) = rs := by
  cases rs with
  | nil => exact ⟨[], by simp [Spec.fasta, lines, splitLF, skipBlank], rfl⟩
  | cons p rs =>
    obtain ⟨recs, h1, h2⟩ := faGroup_many (p :: rs) hok 0 1 none
    refine ⟨recs, ?_, h2⟩
    have hp := hok p (by simp)
    have hno := faToLines_noLF (p :: rs) hok
    rw [many_eq_unlines]
    rw [faToLines_cons] at h1 hno ⊢
    rw [fasta_unlines p.1 hp.1 _ (fun l hl => hno l (by simp [hl])), h1]
    simp

/-! ## Wrapping -/

theorem chunks_eq_nil_iff (w : Nat) (s : List UInt8) : Write.chunks w s = [] ↔ w = 0 ∨ s = [] := by
  rw [Write.chunks]
  split <;> simp_all

theorem chunks_cons (w : Nat) (s : List UInt8) (hw : 0 < w) (hs : s ≠ []) :
    Write.chunks w s = s.take w :: Write.chunks w (s.drop w) := by
  rw [Write.chunks]
  have : ¬ (w = 0 ∨ s = []) := by
    intro h
    rcases h with h | h
    · omega
    · exact hs h
  simp [this]

theorem chunks_flatten (w : Nat) (s : List UInt8) (hw : 0 < w) : (Write.chunks w s).flatten = s := by
  fun_induction Write.chunks w s with
  | case1 s h =>
    rcases h with h | h
    · omega
    · simp [h]
  | case2 s h ih => simp [ih]

theorem chunks_width (w : Nat) (s : List UInt8) (hw : 0 < w) :
    (∀ c ∈ Write.chunks w s, 0 < c.length ∧ c.length ≤ w) ∧ (∀ c ∈ (Write.chunks w s).dropLast, c.length = w) := by
  fun_induction Write.chunks w s with
  | case1 s h => simp
  | case2 s h ih =>
    have hs : s ≠ [] := fun e => h (Or.inr e)
    have hlen : 0 < s.length := List.length_pos_iff.mpr hs
    constructor
    · intro c hc
      rcases List.mem_cons.mp hc with rfl | hc
      · simp only [List.length_take]; omega
      · exact ih.1 c hc
    · intro c hc
      by_cases hn : Write.chunks w (s.drop w) = []
      · simp [hn] at hc
      · rw [List.dropLast_cons_of_ne_nil hn] at hc
        rcases List.mem_cons.mp hc with rfl | hc
        · have : s.drop w ≠ [] := fun e => hn ((chunks_eq_nil_iff w _).mpr (Or.inr e))
          have : 0 < (s.drop w).length := List.length_pos_iff.mpr this
          simp only [List.length_drop] at this
          simp only [List.length_take]; omega
        · exact ih.2 c hc

theorem mem_chunks_subset (w : Nat) (s : List UInt8) :
    ∀ c ∈ Write.chunks w s, ∀ x ∈ c, x ∈ s := by
  fun_induction Write.chunks w s with
  | case1 s h => simp
  | case2 s h ih =>
    intro c hc x hx
    rcases List.mem_cons.mp hc with rfl | hc
    · exact List.mem_of_mem_take hx
    · exact List.mem_of_mem_drop (ih c hc x hx)

theorem wrapChunk_append (w : Nat) (hw : 0 < w) (a : List UInt8) (n : Nat) (out : List UInt8)
    (b : List UInt8) :
    Write.wrapChunk w (a ++ b) n out =
      Write.wrapChunk w b (Write.wrapChunk w a n out).1 (Write.wrapChunk w a n out).2 := by
  have hw0 : w ≠ 0 := by omega
  fun_induction Write.wrapChunk w a n out with
  | case1 a n out rem hle =>
    rw [Write.wrapChunk.eq_1 w (a ++ b), Write.wrapChunk.eq_1 w b]
    simp only [List.length_append]
    by_cases h1 : a.length + b.length ≤ w - n
    · have h2 : b.length ≤ w - (n + a.length) := by omega
      simp [h1, h2, Nat.add_assoc]
    · have h2 : ¬ b.length ≤ w - (n + a.length) := by omega
      simp only [h1, h2, hw0, if_false]
      rw [List.drop_append, List.drop_eq_nil_of_le hle, List.take_append,
        List.take_of_length_le hle]
      simp [Nat.sub_sub]
  | case2 a n out rem hgt hw' => exact absurd hw' hw0
  | case3 a n out rem hgt hw' ih =>
    rw [Write.wrapChunk.eq_1 w (a ++ b)]
    simp only [rem] at hgt ih
    have h1 : ¬ (a ++ b).length ≤ w - n := by simp only [List.length_append]; omega
    have hlt : w - n ≤ a.length := by omega
    simp only [h1, hw0, if_false]
    rw [List.drop_append_of_le_length hlt, List.take_append_of_le_length hlt]
    exact ih

theorem wrapChunk_foldl (w : Nat) (hw : 0 < w) (segs : List (List UInt8)) (n : Nat)
    (out : List UInt8) :
    segs.foldl (fun (st : Nat × List UInt8) seg => Write.wrapChunk w seg st.1 st.2) (n, out) =
      Write.wrapChunk w segs.flatten n out := by
  induction segs generalizing n out with
  | nil => rw [Write.wrapChunk]; simp
  | cons a segs ih =>
    rw [List.foldl_cons, List.flatten_cons, wrapChunk_append w hw, ← ih]

/-- the wrapping loop started at the beginning of a line writes the chunks, the last one
without its LF -/
theorem wrapChunk_chunks (w : Nat) (hw : 0 < w) (s : List UInt8) (hs : s ≠ []) (out : List UInt8) :
    (Write.wrapChunk w s 0 out).2 ++ [LF] = out ++ unlines (Write.chunks w s) := by
  fun_induction Write.chunks w s generalizing out with
  | case1 s h =>
    rcases h with h | h
    · omega
    · exact absurd h hs
  | case2 s h ih =>
    rw [Write.wrapChunk]
    by_cases hle : s.length ≤ w
    · have hd : s.drop w = [] := List.drop_eq_nil_of_le hle
      simp [hle, hd, (chunks_eq_nil_iff w []).mpr (Or.inr rfl), unlines, List.take_of_length_le hle]
    · have hw0 : w ≠ 0 := by omega
      have hd : s.drop w ≠ [] := by
        intro e
        have := congrArg List.length e
        simp only [List.length_drop, List.length_nil] at this
        omega
      simp only [Nat.sub_zero, hle, hw0, if_false]
      rw [ih hd]
      simp [unlines]

/-- `write_wrap_seq_iter` over segments writes what `write_wrap_seq` writes for their concatenation: the
column counter carried from segment to segment makes the segment boundaries invisible.  (For an empty
sequence the two differ: the iterator version still writes the final LF.) -/
theorem wrapSeqIter_eq_wrapSeq (segs : List (List UInt8)) (w : Nat) (hw : 0 < w) (hne : segs.flatten ≠ []) :
    Write.wrapSeqIter segs w = Write.wrapSeq segs.flatten w := by
  have hw0 : w ≠ 0 := by omega
  simp only [Write.wrapSeqIter, Write.wrapSeq, hw0, if_false]
  rw [wrapChunk_foldl w hw, wrapChunk_chunks w hw _ hne]
  simp [unlines]

theorem fasta_wrap_roundtrip (h s : List UInt8) (w : Nat) (hw : 0 < w) (hh : HeadOk h) (hs : SeqOk s) :
    ∃ out r, Write.faOwnedWrap h s w = some out ∧ Spec.fasta out = .records [r] ∧ r.head = h ∧ r.seq = s := by
  have hw0 : w ≠ 0 := by omega
  refine ⟨unlines ((GT :: h) :: Write.chunks w s),
    { byte := 0, line := 1, head := h, seqLines := Write.chunks w s }, ?_, ?_, rfl, ?_⟩
  · simp [Write.faOwnedWrap, Write.wrapSeq, hw0, Write.head, unlines]
  · apply fasta_one h hh
    intro c hc
    have hsub := mem_chunks_subset w s c hc
    exact ⟨fun hx => hs.1 (hsub _ hx), fun hx => hs.2.1 (hsub _ hx), fun hx => hs.2.2 (hsub _ hx)⟩
  · exact chunks_flatten w s hw

/-! ## FASTQ -/

/-- the lines that `fqTo` writes for the records `(head, seq, qual)`, back to back -/
def fqToLines (rs : List (List UInt8 × List UInt8 × List UInt8)) : List (List UInt8) :=
  rs.flatMap fun p => [AT :: p.1, p.2.1, [PLUS], p.2.2]

theorem fqToLines_cons (p : List UInt8 × List UInt8 × List UInt8)
    (rs : List (List UInt8 × List UInt8 × List UInt8)) :
    fqToLines (p :: rs) = (AT :: p.1) :: p.2.1 :: [PLUS] :: p.2.2 :: fqToLines rs := by
  simp [fqToLines]

theorem fqTo_eq_unlines (h s q : List UInt8) :
    Write.fqTo h s q = unlines [AT :: h, s, [PLUS], q] := by
  simp [Write.fqTo, unlines]

theorem fqMany_eq_unlines (rs : List (List UInt8 × List UInt8 × List UInt8)) :
    (rs.flatMap fun p => Write.fqTo p.1 p.2.1 p.2.2) = unlines (fqToLines rs) := by
  induction rs with
  | nil => rfl
  | cons p rs ih =>
    rw [List.flatMap_cons, ih, fqToLines_cons, fqTo_eq_unlines]
    simp [unlines]

theorem fqToLines_noLF (rs : List (List UInt8 × List UInt8 × List UInt8))
    (hok : ∀ p ∈ rs, HeadOk p.1 ∧ FieldOk p.2.1 ∧ FieldOk p.2.2 ∧ p.2.1.length = p.2.2.length) :
    ∀ l ∈ fqToLines rs, LF ∉ l := by
  intro l hl
  simp only [fqToLines, List.mem_flatMap, List.mem_cons, List.not_mem_nil, or_false] at hl
  obtain ⟨p, hp, rfl | rfl | rfl | rfl⟩ := hl
  · exact List.not_mem_cons_of_ne_of_not_mem (by decide) (hok p hp).1.1
  · exact (hok p hp).2.1.1
  · decide
  · exact (hok p hp).2.2.1.1

theorem fqGroup_ok (strict : Bool) (h s q : List UInt8) (hh : HeadOk h) (hs : FieldOk s)
    (hq : FieldOk q) (hl : s.length = q.length) (byte line : Nat) :
    fqGroup strict (AT :: h) s [PLUS] q byte line =
      .record { byte := byte, line := line, head := h, seq := s, qual := q } := by
  simp [fqGroup, hl, trimCr_id h hh.2, trimCr_noCR s hs.2, trimCr_noCR q hq.2]

theorem fqGo_end (strict : Bool) (byte line : Nat) : fqGo strict [[]] byte line = [] := rfl

theorem fqGo_many (strict : Bool) (rs : List (List UInt8 × List UInt8 × List UInt8))
    (hok : ∀ p ∈ rs, HeadOk p.1 ∧ FieldOk p.2.1 ∧ FieldOk p.2.2 ∧ p.2.1.length = p.2.2.length)
    (byte line : Nat) :
    (fqGo strict (fqToLines rs ++ [[]]) byte line).filterMap
        (fun it => match it with | .record r => some (r.head, r.seq, r.qual) | .err _ _ _ => none) = rs ∧
    (fqGo strict (fqToLines rs ++ [[]]) byte line).length = rs.length := by
  induction rs generalizing byte line with
  | nil => simp [fqToLines, fqGo_end]
  | cons p rs ih =>
    obtain ⟨hh, hs, hq, hl⟩ := hok p (by simp)
    obtain ⟨r, rest, e⟩ : ∃ r rest, fqToLines rs ++ [[]] = r :: rest := by
      cases h : fqToLines rs ++ [[]] with
      | nil => simp at h
      | cons r rest => exact ⟨r, rest, rfl⟩
    have ih' := ih (fun x hx => hok x (by simp [hx]))
      (byte + (AT :: p.1).length + p.2.1.length + [PLUS].length + p.2.2.length + 4) (line + 4)
    rw [e] at ih'
    rw [fqToLines_cons, List.cons_append, List.cons_append, List.cons_append, List.cons_append, e,
      fqGo, fqGroup_ok strict p.1 p.2.1 p.2.2 hh hs hq hl]
    simp only [List.filterMap_cons, List.length_cons] at ih' ⊢
    rw [ih'.1, ih'.2]
    exact ⟨rfl, rfl⟩

theorem fastq_many_roundtrip (rs : List (List UInt8 × List UInt8 × List UInt8))
    (hok : ∀ p ∈ rs, HeadOk p.1 ∧ FieldOk p.2.1 ∧ FieldOk p.2.2 ∧ p.2.1.length = p.2.2.length) :
    (Spec.fastq (rs.flatMap fun p => Write.fqTo p.1 p.2.1 p.2.2)).filterMap
        (fun it => match it with | .record r => some (r.head, r.seq, r.qual) | .err _ _ _ => none) = rs ∧
    (Spec.fastq (rs.flatMap fun p => Write.fqTo p.1 p.2.1 p.2.2)).length = rs.length := by
  unfold Spec.fastq
  rw [fqMany_eq_unlines, splitLF_unlines _ (fqToLines_noLF rs hok)]
  exact fqGo_many false rs hok 0 1

theorem fastq_fqTo_roundtrip (h s q : List UInt8) (hh : HeadOk h) (hs : FieldOk s) (hq : FieldOk q)
    (hl : s.length = q.length) :
    Spec.fastq (Write.fqTo h s q) = [.record { byte := 0, line := 1, head := h, seq := s, qual := q }] := by
  have hno : ∀ l ∈ [AT :: h, s, [PLUS], q], LF ∉ l :=
    fqToLines_noLF [(h, s, q)] (by simpa using ⟨hh, hs, hq, hl⟩)
  unfold Spec.fastq
  rw [fqTo_eq_unlines, splitLF_unlines _ hno]
  simp only [List.cons_append, List.nil_append]
  rw [fqGo, fqGroup_ok false h s q hh hs hq hl, fqGo_end]

end SeqIo.WriteProofs
