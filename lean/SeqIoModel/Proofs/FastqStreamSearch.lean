import SeqIoModel.Proofs.FastqStreamValidate
/-!
# `search` and `search_incomplete`

`search` is `search_incomplete` from the header line (`search_eq`); `search_incomplete` walks from
line to line (`searchIncomplete_step`) and either stops in a line without LF (`Scan`: the earlier
line starts are recorded in the offsets, `Pre`) or finds all four lines (`Found4`) and calls
`validate` (`si_spec`).  `Fits` says when the group at the start of a text fits into a buffer.
-/

namespace SeqIo.Fastq
open SeqIo SeqIo.Spec SeqIo.WriteProofs

def wrapV (x : Reader × Res Unit) : Reader × Res (Option RecordPos) :=
  match x with
  | (r, .ok ()) => (r, .ok none)
  | (r, .err e) => (r, .err e)
  | (r, .panic) => (r, .panic)
  | (r, .fuel) => (r, .fuel)

def wrapS (x : Reader × Res (Option RecordPos)) : Reader × Res Bool :=
  match x with
  | (r, .ok none) => (r, .ok true)
  | (r, .ok (some _)) => (r, .ok false)
  | (r, .err e) => (r, .err e)
  | (r, .panic) => (r, .panic)
  | (r, .fuel) => (r, .fuel)

theorem search_eq (r : Reader) (hip : r.incompletePos = none) :
    search r = wrapS (searchIncomplete r .head) := by
  rcases r with ⟨br, bp, ip, line, byte, st, pol, log⟩
  simp only at hip
  subst hip
  rcases h1 : findLine br.buf bp.pos0 with _ | _ | sq
  · simp [search, searchIncomplete, h1, wrapS]
  · simp [search, searchIncomplete, h1, wrapS]
  · rcases h2 : findLine br.buf sq with _ | _ | sp
    · simp [search, searchIncomplete, h1, h2, wrapS, RecordPos.ord]
    · simp [search, searchIncomplete, h1, h2, wrapS, RecordPos.ord]
    · rcases h3 : findLine br.buf sp with _ | _ | ql
      · simp [search, searchIncomplete, h1, h2, h3, wrapS, RecordPos.ord]
      · simp [search, searchIncomplete, h1, h2, h3, wrapS, RecordPos.ord]
      · rcases h4 : findLine br.buf ql with _ | _ | e
        · simp [search, searchIncomplete, h1, h2, h3, h4, wrapS, RecordPos.ord]
        · simp [search, searchIncomplete, h1, h2, h3, h4, wrapS, RecordPos.ord]
        · rcases h5 : csub e 1 with _ | p1
          · simp [search, searchIncomplete, h1, h2, h3, h4, h5, wrapS, RecordPos.ord]
          · simp [search, searchIncomplete, h1, h2, h3, h4, h5, wrapS, RecordPos.ord, validated]
            generalize validate _ = v
            rcases v with ⟨r', (_ | _ | _ | _)⟩ <;> rfl

/-- where line `ip` of the record starts -/
def lastPos (bp : BufPos) : RecordPos → Nat
  | .head => bp.pos0
  | .seq => bp.seq
  | .sep => bp.sep
  | .qual => bp.qual

/-- one step of `search_incomplete`: the line that starts at `lastPos r.bp ip` ends in the
buffer and the search goes on behind it, or the search stops in this line -/
theorem searchIncomplete_step (r : Reader) (ip : RecordPos)
    (h0 : lastPos r.bp ip ≤ r.br.buf.length) :
    searchIncomplete r ip =
      match (generalizing := false) nl r.br.buf (lastPos r.bp ip), ip with
      | none, ip => ({ r with incompletePos := some ip }, .ok (some ip))
      | some x, .head => searchIncomplete { r with bp := { r.bp with seq := x } } .seq
      | some x, .seq => searchIncomplete { r with bp := { r.bp with sep := x } } .sep
      | some x, .sep => searchIncomplete { r with bp := { r.bp with qual := x } } .qual
      | some x, .qual =>
        wrapV (validate { r with bp := { r.bp with pos1 := x - 1 }, incompletePos := none }) := by
  cases ip with
  | head =>
    have h0 : r.bp.pos0 ≤ r.br.buf.length := h0
    cases h : nl r.br.buf r.bp.pos0 <;>
      simp [searchIncomplete, findLine_of_le h0, h, lastPos, RecordPos.ord]
  | seq =>
    have h0 : r.bp.seq ≤ r.br.buf.length := h0
    cases h : nl r.br.buf r.bp.seq <;>
      simp [searchIncomplete, findLine_of_le h0, h, lastPos, RecordPos.ord]
  | sep =>
    have h0 : r.bp.sep ≤ r.br.buf.length := h0
    cases h : nl r.br.buf r.bp.sep <;>
      simp [searchIncomplete, findLine_of_le h0, h, lastPos, RecordPos.ord]
  | qual =>
    have h0 : r.bp.qual ≤ r.br.buf.length := h0
    cases h : nl r.br.buf r.bp.qual with
    | none => simp [searchIncomplete, findLine_of_le h0, h, lastPos, RecordPos.ord]
    | some x =>
      have hx : 1 ≤ x := by have := nl_lt h; omega
      simp [searchIncomplete, findLine_of_le h0, h, lastPos, RecordPos.ord, csub_of_le hx, wrapV]
      generalize validate _ = v
      rcases v with ⟨r', (_ | _ | _ | _)⟩ <;> rfl

/-! ## what a (resumed) search establishes -/

/-- the line starts found so far when the search stopped in line `ip` -/
def Pre (buf : List UInt8) (bp : BufPos) : RecordPos → Prop
  | .head => True
  | .seq => nl buf bp.pos0 = some bp.seq
  | .sep => nl buf bp.pos0 = some bp.seq ∧ nl buf bp.seq = some bp.sep
  | .qual => nl buf bp.pos0 = some bp.seq ∧ nl buf bp.seq = some bp.sep ∧
      nl buf bp.sep = some bp.qual

/-- the search stopped in line `ip`: the earlier line starts are found, and there is no LF
from the start of line `ip` to the end of the buffer -/
def Scan (buf : List UInt8) (bp : BufPos) (ip : RecordPos) : Prop :=
  Pre buf bp ip ∧ nl buf (lastPos bp ip) = none

/-- all four lines found (`pos1` = offset of the LF ending the quality line) -/
def Found4 (buf : List UInt8) (bp : BufPos) : Prop :=
  nl buf bp.pos0 = some bp.seq ∧ nl buf bp.seq = some bp.sep ∧ nl buf bp.sep = some bp.qual ∧
    nl buf bp.qual = some (bp.pos1 + 1)

def SiOut (r : Reader) (res : Reader × Res (Option RecordPos)) : Prop :=
  (∃ bp' ip', bp'.pos0 = r.bp.pos0 ∧ Scan r.br.buf bp' ip' ∧
      res = ({ r with bp := bp', incompletePos := some ip' }, .ok (some ip'))) ∨
  (∃ bp', bp'.pos0 = r.bp.pos0 ∧ Found4 r.br.buf bp' ∧
      res = wrapV (validate { r with bp := bp', incompletePos := none }))

theorem si_spec_qual (r : Reader) (hpre : Pre r.br.buf r.bp .qual) :
    SiOut r (searchIncomplete r .qual) := by
  rw [searchIncomplete_step r .qual (nl_le hpre.2.2)]
  simp only [lastPos]
  cases h : nl r.br.buf r.bp.qual with
  | none => exact Or.inl ⟨r.bp, .qual, rfl, ⟨hpre, h⟩, rfl⟩
  | some x =>
    have hx : 1 ≤ x := by have := nl_lt h; omega
    refine Or.inr ⟨{ r.bp with pos1 := x - 1 }, rfl, ⟨hpre.1, hpre.2.1, hpre.2.2, ?_⟩, rfl⟩
    simp only [h, Option.some.injEq]; omega

theorem si_spec_sep (r : Reader) (hpre : Pre r.br.buf r.bp .sep) :
    SiOut r (searchIncomplete r .sep) := by
  rw [searchIncomplete_step r .sep (nl_le hpre.2)]
  simp only [lastPos]
  cases h : nl r.br.buf r.bp.sep with
  | none => exact Or.inl ⟨r.bp, .sep, rfl, ⟨hpre, h⟩, rfl⟩
  | some x => exact si_spec_qual { r with bp := { r.bp with qual := x } } ⟨hpre.1, hpre.2, h⟩

theorem si_spec_seq (r : Reader) (hpre : Pre r.br.buf r.bp .seq) :
    SiOut r (searchIncomplete r .seq) := by
  have p1 : nl r.br.buf r.bp.pos0 = some r.bp.seq := hpre
  rw [searchIncomplete_step r .seq (nl_le p1)]
  simp only [lastPos]
  cases h : nl r.br.buf r.bp.seq with
  | none => exact Or.inl ⟨r.bp, .seq, rfl, ⟨p1, h⟩, rfl⟩
  | some x => exact si_spec_sep { r with bp := { r.bp with sep := x } } ⟨p1, h⟩

theorem si_spec_head (r : Reader) (h0 : r.bp.pos0 ≤ r.br.buf.length) :
    SiOut r (searchIncomplete r .head) := by
  rw [searchIncomplete_step r .head h0]
  simp only [lastPos]
  cases h : nl r.br.buf r.bp.pos0 with
  | none => exact Or.inl ⟨r.bp, .head, rfl, ⟨trivial, h⟩, rfl⟩
  | some x => exact si_spec_seq { r with bp := { r.bp with seq := x } } h

theorem si_spec (r : Reader) (ip : RecordPos) (h0 : r.bp.pos0 ≤ r.br.buf.length)
    (hpre : Pre r.br.buf r.bp ip) : SiOut r (searchIncomplete r ip) := by
  cases ip with
  | head => exact si_spec_head r h0
  | seq => exact si_spec_seq r hpre
  | sep => exact si_spec_sep r hpre
  | qual => exact si_spec_qual r hpre

/-! ## `Pre` under buffer extension -/

theorem Pre.append {buf : List UInt8} {bp : BufPos} {ip : RecordPos} (e : List UInt8)
    (h : Pre buf bp ip) : Pre (buf ++ e) bp ip := by
  cases ip with
  | head => trivial
  | seq => exact nl_append e h
  | sep => exact ⟨nl_append e h.1, nl_append e h.2⟩
  | qual => exact ⟨nl_append e h.1, nl_append e h.2.1, nl_append e h.2.2⟩

theorem Pre.le {buf : List UInt8} {bp : BufPos} {ip : RecordPos} (h : Pre buf bp ip)
    (h0 : bp.pos0 ≤ buf.length) :
    bp.pos0 ≤ lastPos bp ip ∧ lastPos bp ip ≤ buf.length := by
  cases ip with
  | head => exact ⟨Nat.le_refl _, h0⟩
  | seq =>
    have := nl_some (show nl buf bp.pos0 = some bp.seq from h)
    simp only [lastPos]; omega
  | sep =>
    have a := nl_some h.1
    have b := nl_some h.2
    simp only [lastPos]; omega
  | qual =>
    have a := nl_some h.1
    have b := nl_some h.2.1
    have c := nl_some h.2.2
    simp only [lastPos]; omega

/-- three lines found, and the end of the fourth fixed behind the start of the quality line: the
four lines are laid out in the buffer -/
theorem Pre.rec4 {buf : List UInt8} {bp : BufPos} (h : Pre buf bp .qual) (h4 : bp.qual ≤ bp.pos1)
    (h5 : bp.pos1 ≤ buf.length) : Rec4 buf bp :=
  ⟨nl_lt h.1, nl_lt h.2.1, nl_lt h.2.2, h4, h5, nl_lf h.1, nl_lf h.2.2⟩

/-! ## does a group fit into a buffer? -/

theorem nl_restrict {t e : List UInt8} {a b : Nat} (h : nl (t ++ e) a = some b)
    (hb : b ≤ t.length) : nl t a = some b := by
  cases ht : nl t a with
  | some b' =>
    have := nl_append e ht
    rw [h] at this
    exact this.symm
  | none =>
    exfalso
    have hno := nl_none ht
    obtain ⟨hab, -, hlf, -, -⟩ := nl_some h
    apply hno
    rw [List.mem_iff_getElem?]
    refine ⟨b - 1 - a, ?_⟩
    rw [List.getElem?_drop]
    have : a + (b - 1 - a) = b - 1 := by omega
    rw [this]
    rw [List.getElem?_append_left (by omega)] at hlf
    exact hlf

/-- offset after the fourth LF -/
def nl4 (t : List UInt8) : Option Nat :=
  (nl t 0).bind fun a => (nl t a).bind fun b => (nl t b).bind fun c => nl t c

/-- the group at the start of `t` fits into a buffer of `c` bytes: its extent through the
fourth LF is at most `c`, or – for an unterminated last group – its extent plus one is -/
def Fits (t : List UInt8) (c : Nat) : Prop :=
  match nl4 t with
  | some e => e ≤ c
  | none => t.length < c

theorem nl4_some {t : List UInt8} {e : Nat} (h : nl4 t = some e) :
    ∃ a b c, nl t 0 = some a ∧ nl t a = some b ∧ nl t b = some c ∧ nl t c = some e := by
  unfold nl4 at h
  cases h1 : nl t 0 with
  | none => simp [h1] at h
  | some a =>
    simp only [h1, Option.bind_some] at h
    cases h2 : nl t a with
    | none => simp [h2] at h
    | some b =>
      simp only [h2, Option.bind_some] at h
      cases h3 : nl t b with
      | none => simp [h3] at h
      | some c =>
        simp only [h3, Option.bind_some] at h
        exact ⟨a, b, c, rfl, h2, h3, h⟩

/-- the fourth LF lies within a prefix: it is the fourth LF of the prefix -/
theorem nl4_restrict {buf rest : List UInt8} {e : Nat} (h : nl4 (buf ++ rest) = some e)
    (hle : e ≤ buf.length) : nl4 buf = some e := by
  obtain ⟨a, b, c, ha, hb, hc, he⟩ := nl4_some h
  have ha' := nl_lt ha
  have hb' := nl_lt hb
  have hc' := nl_lt hc
  have he' := nl_lt he
  simp only [nl4, nl_restrict ha (by omega), nl_restrict hb (by omega), nl_restrict hc (by omega),
    nl_restrict he hle, Option.bind_some]

/-- a search from the start of the buffer that stopped at its end: fewer than four LF -/
theorem Scan.nl4_none {buf : List UInt8} {bp : BufPos} {ip : RecordPos} (hsc : Scan buf bp ip)
    (h0 : bp.pos0 = 0) : nl4 buf = none := by
  obtain ⟨hpre, hnone⟩ := hsc
  cases ip with
  | head =>
    simp only [lastPos, h0] at hnone
    simp only [nl4, hnone, Option.bind_none]
  | seq =>
    have p1 : nl buf bp.pos0 = some bp.seq := hpre
    simp only [lastPos] at hnone
    rw [h0] at p1
    simp only [nl4, p1, hnone, Option.bind_some, Option.bind_none]
  | sep =>
    obtain ⟨p1, p2⟩ := hpre
    simp only [lastPos] at hnone
    rw [h0] at p1
    simp only [nl4, p1, p2, hnone, Option.bind_some, Option.bind_none]
  | qual =>
    obtain ⟨p1, p2, p3⟩ := hpre
    simp only [lastPos] at hnone
    rw [h0] at p1
    simp only [nl4, p1, p2, p3, hnone, Option.bind_some]

/-- a search that stopped at the end of a buffer starting with the group: the group does not
fit into the buffer -/
theorem scan_unfit {buf rest : List UInt8} {bp : BufPos} {ip : RecordPos} (hsc : Scan buf bp ip)
    (h0 : bp.pos0 = 0) : ¬ Fits (buf ++ rest) buf.length := by
  unfold Fits
  cases h4 : nl4 (buf ++ rest) with
  | none => simp only [List.length_append]; omega
  | some e =>
    intro hle
    have := nl4_restrict h4 hle
    rw [hsc.nl4_none h0] at this
    cases this

end SeqIo.Fastq
