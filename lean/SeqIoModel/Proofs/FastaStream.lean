import SeqIoModel.Proofs.FastaStreamInit
/-!
# FASTA stream theorem: `next()` calls of the buffered reader yield exactly what S prescribes

`fasta_next_stream_polGrows`: for every input, capacity ≥ 3, policy that never refuses a request
with a positive capacity (`PolGrows`, e.g. `StdPolicy`), failure-free read script and chunk limit,
`k` `next()` calls give S's records (head, sequence lines, line number, byte offset) in order, or
S's `InvalidStart`, then `None` forever; no panic, `opFuel` suffices.
`fasta_next_stream_refusing`: with `PolWfPos` the same up to the first `BufferLimit`.
-/
open SeqIo SeqIo.FillProofs SeqIo.Spec

namespace SeqIo.Fasta

/-! ## record views of a window are views of the input -/

theorem segsFrom_shift (inp buf ext : List UInt8) (b : Nat) (hb : b ≤ inp.length)
    (hw : inp.drop b = buf ++ ext) (ps : List Nat) (a : Nat) (hp : ∀ p ∈ ps, p ≤ buf.length) :
    segsFrom buf a ps = segsFrom inp (a + b) (ps.map (· + b)) := by
  induction ps generalizing a with
  | nil => rfl
  | cons p ps ih =>
    simp only [segsFrom, List.map_cons]
    rw [slice_shift inp buf ext b hb hw a p (hp p (by simp)), ih (p + 1) (fun q hq => hp q (by simp [hq]))]
    have e : p + 1 + b = p + b + 1 := by omega
    rw [e]

theorem head_shift (inp buf ext : List UInt8) (b : Nat) (hb : b ≤ inp.length)
    (hw : inp.drop b = buf ++ ext) (bp : BufPos) (hp : ∀ p ∈ bp.seqPos, p ≤ buf.length) :
    head buf bp = head inp ⟨bp.start + b, bp.seqPos.map (· + b)⟩ := by
  rcases bp with ⟨st, ps⟩
  cases ps with
  | nil => rfl
  | cons p ps =>
    simp only [head_cons, List.map_cons]
    rw [slice_shift inp buf ext b hb hw (st + 1) p (hp p (by simp))]
    have e : st + 1 + b = st + b + 1 := by omega
    rw [e]

theorem seqLines_shift (inp buf ext : List UInt8) (b : Nat) (hb : b ≤ inp.length)
    (hw : inp.drop b = buf ++ ext) (bp : BufPos) (hp : ∀ p ∈ bp.seqPos, p ≤ buf.length) :
    seqLines buf bp = seqLines inp ⟨bp.start + b, bp.seqPos.map (· + b)⟩ := by
  rcases bp with ⟨st, ps⟩
  cases ps with
  | nil => rfl
  | cons p ps =>
    simp only [seqLines_cons, List.map_cons]
    rw [segsFrom_shift inp buf ext b hb hw ps (p + 1) (fun q hq => hp q (by simp [hq]))]
    have e : p + 1 + b = p + b + 1 := by omega
    rw [e]

/-! ## the invariant between `next` calls -/

/-- absolute offsets at which the records of S start -/
inductive RecStart (inp : List UInt8) : Nat → Prop
  | first {l : List UInt8} {ls : List (List UInt8)} {s ln : Nat} :
      skipBlank (lines inp) 0 1 = (l :: ls, s, ln) → l.head? = some GT → RecStart inp s
  | next {s : Nat} : RecStart inp s → (scan (inp.drop s) s []).1 = true →
      RecStart inp (scan (inp.drop s) s []).2.1

/-- `InvR inp r rest`: `r` is a state between `next` calls on input `inp`, and `rest` is what
S still prescribes for the calls to come.  `parsing` carries `RecStart` only so that `next_step`
can say which record the policy requests of a call are for (`Unfit`). -/
inductive InvR (inp : List UInt8) : Reader → List Obs → Prop
  | new (r : Reader) : FB inp r → r.state = .new → r.bp.seqPos = [] → InvR inp r (specObs inp)
  | parsing (r : Reader) : Win inp r → Eof inp r → r.state = .parsing →
      r.bp.start ≤ r.searchPos → r.searchPos ≤ r.br.buf.length →
      r.byte = r.bp.start + base r →
      (inp.drop (r.searchPos + base r)).head? = some GT →
      RecStart inp (r.searchPos + base r) →
      InvR inp r (specFrom inp (r.searchPos + base r) (r.line + r.bp.seqPos.length))
  | finished (r : Reader) : Win inp r → r.state = .finished → InvR inp r []

def InvW (inp : List UInt8) (r : Reader) : Prop := ∃ rest, InvR inp r rest

def Inv (inp : List UInt8) (r : Reader) : Prop := InvW inp r ∧ PolGrows r.pol

theorem Inv.weak {inp : List UInt8} {r : Reader} (h : Inv inp r) : InvW inp r := h.1

theorem InvR.win {inp : List UInt8} {r : Reader} {rest : List Obs} (h : InvR inp r rest) :
    Win inp r := by
  cases h with
  | new h _ _ => exact h.win
  | parsing h => exact h
  | finished h => exact h

theorem position_of_ne {r : Reader} (h : r.bp.seqPos ≠ []) : position r = some (r.line, r.byte) := by
  unfold position
  cases hs : r.bp.seqPos with
  | nil => exact absurd hs h
  | cons _ _ => rfl

theorem shown_of_shift {inp buf ext : List UInt8} {B : Nat} {bp : BufPos} {s : Nat}
    {H : List UInt8} {SL : List (List UInt8)} (hb : B ≤ inp.length) (hw : inp.drop B = buf ++ ext)
    (hstart : bp.start + B = s) (hpos : ∀ p ∈ bp.seqPos, p ≤ buf.length)
    (hfin : bp.seqPos.map (· + B) = finalPos (scan (inp.drop s) s []))
    (hH : head inp ⟨s, finalPos (scan (inp.drop s) s [])⟩ = some H)
    (hSL : allSome (seqLines inp ⟨s, finalPos (scan (inp.drop s) s [])⟩) = some SL) :
    head buf bp = some H ∧ allSome (seqLines buf bp) = some SL ∧ bp.seqPos ≠ [] := by
  have hbp : (⟨bp.start + B, bp.seqPos.map (· + B)⟩ : BufPos) =
      ⟨s, finalPos (scan (inp.drop s) s [])⟩ := by
    rw [hstart, hfin]
  have hhead : head buf bp = some H := by
    rw [head_shift inp buf ext B hb hw bp hpos, hbp, hH]
  refine ⟨hhead, by rw [seqLines_shift inp buf ext B hb hw bp hpos, hbp, hSL], fun hnil => ?_⟩
  unfold head at hhead
  rw [hnil] at hhead
  simp at hhead

theorem rec_done_obs {inp : List UInt8} {r' : Reader} {s ln : Nat} (hw' : Win inp r')
    (he' : Eof inp r') (hd : RecDone inp r' s) (hl' : r'.line = ln) (hb' : r'.byte = s)
    (hst' : r'.state = .parsing ∨ r'.state = .finished)
    (hgt : (inp.drop s).head? = some GT) (hrs : RecStart inp s) :
    ∃ o rest, specFrom inp s ln = o :: rest ∧ observe r' (.ok true) = o ∧ InvR inp r' rest := by
  obtain ⟨H, SL, hH, hSL, hspec, hnext⟩ := rec_spec inp s ln hgt
  obtain ⟨hhead, hseq, hne⟩ :=
    shown_of_shift hw'.b.base_le hw'.b.win hd.start_eq hd.pos_le hd.fin hH hSL
  have hpos : position r' = some (ln, s) := by rw [position_of_ne hne, hl', hb']
  refine ⟨_, _, hspec, by simp only [observe, hhead, hseq, hpos], ?_⟩
  rcases hd.cases with ⟨hf, hnf, hsp, hsl, hsple⟩ | ⟨hf, hfin⟩
  · rw [if_pos hf, hsp, hd.len, ← hl']
    exact InvR.parsing r' hw' he' (hst'.resolve_right hnf) hsl hsple (by rw [hb', hd.start_eq])
      (by rw [← hsp]; exact hnext hf) (by rw [← hsp]; exact RecStart.next hrs hf)
  · rw [if_neg (by rw [hf]; nofun)]
    exact InvR.finished r' hw' hfin

theorem rec_step {inp : List UInt8} {r : Reader} {s ln fuel : Nat} (hw : Win inp r)
    (he : Eof inp r) (hs : ScanSt inp r s) (hst : r.state = .parsing) (hbyte : r.byte = s)
    (hline : r.line = ln) (hgt : (inp.drop s).head? = some GT) (hrs : RecStart inp s)
    (hfuel : inp.length < fuel) :
    ∃ r' res new, nextCont fuel r = (r', res) ∧ Growth r r' new ∧
      (∀ e ∈ new, e.1 < recExtent inp s + 1) ∧
      ((res = .ok true ∧ (∀ e ∈ new, e.2 ≠ none) ∧ Win inp r' ∧ RecDone inp r' s ∧ r'.byte = s ∧
          ∃ o rest, specFrom inp s ln = o :: rest ∧ observe r' res = o ∧ InvR inp r' rest) ∨
       Refused r res new) := by
  obtain ⟨r', new, hg, hun, hcase⟩ := nextCont_spec hw he hs hst hfuel
  rcases hcase with ⟨hnc, hsome, hw', he', hd, hl', hb', hst'⟩ | ⟨hnc, href⟩
  · obtain ⟨o, rest, hspec, hobs, hinv⟩ :=
      rec_done_obs hw' he' hd (by rw [hl', hline]) (by rw [hb', hbyte]) hst' hgt hrs
    exact ⟨r', .ok true, new, hnc, hg, hun,
      Or.inl ⟨rfl, hsome, hw', hd, hb'.trans hbyte, o, rest, hspec, hobs, hinv⟩⟩
  · exact ⟨r', _, new, hnc, hg, hun, Or.inr href⟩

theorem specObs_of_skip (inp : List UInt8) (s ln : Nat) (c : UInt8) (l : List UInt8)
    (ls : List (List UInt8))
    (hskip : skipBlank (lines inp) 0 1 = (lines (inp.drop s), s, ln))
    (hl : lines (inp.drop s) = l :: ls) (hc : l.head? = some c) :
    specObs inp = if c = GT then specFrom inp s ln else [.error (.invalidStart ln c)] := by
  unfold specObs Spec.fasta
  rw [hskip, hl]
  simp only [hc]
  by_cases h : c = GT
  · simp only [h, if_true, specFrom, hl]
    rfl
  · simp only [h, if_false]

theorem specObs_of_skip_nil (inp : List UInt8) (h : (skipBlank (lines inp) 0 1).1 = []) :
    specObs inp = [] := by
  unfold specObs Spec.fasta
  rcases hx : skipBlank (lines inp) 0 1 with ⟨ls, b, l⟩
  rw [hx] at h
  simp only at h
  subst h
  rfl

/-! ## one `next` call -/

/-- the state after `increment_record` -/
def incRec (r : Reader) : Reader :=
  { r with line := r.line + r.bp.seqPos.length, byte := r.byte + (r.searchPos - r.bp.start),
           bp := { start := r.searchPos, seqPos := [] } }

/-- the state after a successful `init`, in state `parsing` -/
def initRec (r1 : Reader) (ln pos : Nat) : Reader :=
  { r1 with bp := { r1.bp with start := pos }, byte := r1.byte + pos, line := ln,
            searchPos := pos + 1, state := .parsing }

theorem next_finished (fuel : Nat) (r : Reader) (h : r.state = .finished) :
    next fuel r = (r, .ok false) := by
  simp only [next, h]

theorem next_parsing (fuel : Nat) (r : Reader) (h : r.state = .parsing)
    (hle : r.bp.start ≤ r.searchPos) :
    next fuel r = nextCont fuel (incRec r) := by
  simp only [next, h, incrementRecord, csub, hle, if_true, incRec]

theorem next_new_none (fuel : Nat) (r r1 : Reader) (h : r.state = .new)
    (hf : firstByte fuel r = (r1, .ok none)) :
    next fuel r = ({ r1 with state := .finished }, .ok false) := by
  simp only [next, h, init, hf]

theorem next_new_gt (fuel : Nat) (r r1 : Reader) (ln pos : Nat) (h : r.state = .new)
    (hf : firstByte fuel r = (r1, .ok (some (ln, pos, GT)))) :
    next fuel r = nextCont fuel (initRec r1 ln pos) := by
  simp only [next, h, init, hf, if_true, initRec]

theorem next_new_other (fuel : Nat) (r r1 : Reader) (ln pos : Nat) (c : UInt8) (h : r.state = .new)
    (hc : c ≠ GT) (hf : firstByte fuel r = (r1, .ok (some (ln, pos, c)))) :
    next fuel r = ({ r1 with state := .finished }, .err (.invalidStart ln c)) := by
  simp only [next, h, init, hf, hc, if_false]

def Good (inp : List UInt8) (rest : List Obs) (r' : Reader) (res : Res Bool)
    (new : List (Nat × Option Nat)) : Prop :=
  ((∃ b, res = .ok b) ∨ (∃ ln c, res = .err (.invalidStart ln c))) ∧
  (∀ e ∈ new, e.2 ≠ none) ∧
  observe r' res = rest.headD .none ∧ InvR inp r' rest.tail

/-- the unfitting record that caused the policy requests of a call -/
def Unfit (inp : List UInt8) (new : List (Nat × Option Nat)) : Prop :=
  new ≠ [] → ∃ s, RecStart inp s ∧ ∀ e ∈ new, e.1 < recExtent inp s + 1

theorem next_step {inp : List UInt8} {r : Reader} {rest : List Obs} {fuel : Nat}
    (h : InvR inp r rest) (hfuel : inp.length < fuel) :
    ∃ r' res new, next fuel r = (r', res) ∧ Growth r r' new ∧ Unfit inp new ∧
      (Good inp rest r' res new ∨ Refused r res new) ∧
      (res = .ok true → ∃ s, Win inp r' ∧ RecDone inp r' s ∧ r'.byte = s ∧
        (inp.drop s).head? = some GT) := by
  have hnil : ∀ e ∈ ([] : List (Nat × Option Nat)), e.2 ≠ none := by intro e he; cases he
  cases h with
  | finished hw hst =>
    exact ⟨r, .ok false, [], next_finished fuel r hst, Growth.same rfl rfl rfl,
      (fun h => absurd rfl h), Or.inl ⟨Or.inl ⟨_, rfl⟩, hnil, rfl, InvR.finished r hw hst⟩, nofun⟩
  | parsing hw he hst hsl hsple hbyte hgt hrs =>
    rw [next_parsing fuel r hst hsl]
    have hs1 : ScanSt inp (incRec r) (r.searchPos + base r) := ScanSt.atStart rfl rfl hsple
    obtain ⟨r', res, new, hnc, hg, hun, hcase⟩ :=
      rec_step (r := incRec r) (ln := r.line + r.bp.seqPos.length) ⟨hw.b, hw.pol⟩ he hs1 hst
        (by show r.byte + (r.searchPos - r.bp.start) = r.searchPos + base r; omega) rfl hgt hrs hfuel
    refine ⟨r', res, new, hnc, ⟨hg.log, hg.polf, hg.chain⟩, fun _ => ⟨_, hrs, hun⟩, ?_⟩
    rcases hcase with ⟨hres, hsome, hw', hd', hb', o, rest', hspec, hobs, hinv⟩ | href
    · refine ⟨Or.inl ⟨Or.inl ⟨_, hres⟩, hsome, ?_, ?_⟩, fun _ => ⟨_, hw', hd', hb', hgt⟩⟩
      · rw [hspec]; exact hobs
      · rw [hspec]; exact hinv
    · exact ⟨Or.inr href, fun h => by rw [href.1] at h; cases h⟩
  | new hfb hst hsq =>
    have hcl := hfb.win.b.cur_le
    obtain ⟨r1, res, hfirst, -, -, -, hw1, hbp1, hsp1, hst1, hlog1, hpol1, hcap1, hpost⟩ :=
      firstByte_loop fuel r hfb (by omega)
    cases res with
    | none =>
      rw [next_new_none fuel r r1 hst hfirst]
      refine ⟨{ r1 with state := .finished }, .ok false, [], rfl,
        Growth.same hlog1 (by show r1.pol.f = r.pol.f; rw [hpol1]) hcap1, (fun h => absurd rfl h),
        Or.inl ⟨Or.inl ⟨_, rfl⟩, hnil, ?_, ?_⟩, nofun⟩
      · rw [specObs_of_skip_nil inp hpost]; rfl
      · rw [specObs_of_skip_nil inp hpost]
        exact InvR.finished _ ⟨hw1.b, hw1.pol⟩ rfl
    | some x =>
      obtain ⟨ln, pos, c⟩ := x
      obtain ⟨he1, hbyte1, hpos, hhead, hskip, l, ls, hl, hc⟩ := hpost
      have hso := specObs_of_skip inp _ ln c l ls hskip hl hc
      by_cases hgt : c = GT
      · subst hgt
        rw [if_pos rfl] at hso
        rw [next_new_gt fuel r r1 ln pos hst hfirst]
        have hrs : RecStart inp (pos + base r1) := RecStart.first (by rw [hskip, hl]) hc
        have hs2 : ScanSt inp (initRec r1 ln pos) (pos + base r1) :=
          ScanSt.afterGt (by show BufPos.mk pos r1.bp.seqPos = _; rw [hbp1, hsq]) rfl hpos hhead
        obtain ⟨r', res, new, hnc, hg, hun, hcase⟩ :=
          rec_step (r := initRec r1 ln pos) (ln := ln) ⟨hw1.b, hw1.pol⟩ he1 hs2 rfl
            (by show r1.byte + pos = pos + base r1; omega) rfl hhead hrs hfuel
        have hg' : Growth r r' new := by
          refine ⟨?_, ?_, ?_⟩
          · rw [hg.log]; show r1.log ++ new = _; rw [hlog1]
          · rw [hg.polf]; show r1.pol.f = _; rw [hpol1]
          · have := hg.chain
            rw [← hcap1]; exact this
        refine ⟨r', res, new, hnc, hg', fun _ => ⟨_, hrs, hun⟩, ?_⟩
        rcases hcase with ⟨hres, hsome, hw', hd', hb', o, rest', hspec, hobs, hinv⟩ |
          ⟨hres, hlast, hh, hc', hc1, hrf⟩
        · refine ⟨Or.inl ⟨Or.inl ⟨_, hres⟩, hsome, ?_, ?_⟩, fun _ => ⟨_, hw', hd', hb', hhead⟩⟩
          · rw [hso, hspec]; exact hobs
          · rw [hso, hspec]; exact hinv
        · refine ⟨Or.inr ⟨hres, hlast, hh, hc', hc1, ?_⟩, fun h => by rw [hres] at h; cases h⟩
          rw [← hpol1]; exact hrf
      · rw [if_neg hgt] at hso
        rw [next_new_other fuel r r1 ln pos c hst hgt hfirst]
        refine ⟨{ r1 with state := .finished }, .err (.invalidStart ln c), [], rfl,
          Growth.same hlog1 (by show r1.pol.f = r.pol.f; rw [hpol1]) hcap1, (fun h => absurd rfl h),
          Or.inl ⟨Or.inr ⟨_, _, rfl⟩, hnil, ?_, ?_⟩, nofun⟩
        · rw [hso]; rfl
        · rw [hso]; exact InvR.finished _ ⟨hw1.b, hw1.pol⟩ rfl

theorem Good.granted {inp : List UInt8} {rest : List Obs} {r' : Reader} {res : Res Bool}
    {new : List (Nat × Option Nat)} (h : Good inp rest r' res new) : ∀ e ∈ new, e.2 ≠ none := h.2.1

theorem Good.obs {inp : List UInt8} {rest : List Obs} {r' : Reader} {res : Res Bool}
    {new : List (Nat × Option Nat)} (h : Good inp rest r' res new) :
    observe r' res = rest.headD .none := h.2.2.1

theorem Good.inv {inp : List UInt8} {rest : List Obs} {r' : Reader} {res : Res Bool}
    {new : List (Nat × Option Nat)} (h : Good inp rest r' res new) : InvR inp r' rest.tail := h.2.2.2

theorem Good.res_ne {inp : List UInt8} {rest : List Obs} {r' : Reader} {res : Res Bool}
    {new : List (Nat × Option Nat)} (h : Good inp rest r' res new) : res ≠ .err .bufferLimit := by
  intro hres
  rcases h.1 with ⟨b, hb⟩ | ⟨ln, c, hc⟩
  · rw [hb] at hres; cases hres
  · rw [hc] at hres; cases hres

theorem Good.not_refused {inp : List UInt8} {rest : List Obs} {r r' : Reader} {res : Res Bool}
    {new : List (Nat × Option Nat)} (h : Good inp rest r' res new) : ¬ Refused r res new :=
  fun href => h.res_ne href.1

/-! ## the invariant is preserved; no panic; the fuel suffices -/

theorem opFuel_gt (n m : Nat) : n < opFuel n m := by
  unfold opFuel; omega

theorem invW_next_result {inp : List UInt8} {r : Reader} {fuel : Nat} (h : InvW inp r)
    (hfuel : inp.length < fuel) :
    (∃ b, (next fuel r).2 = .ok b) ∨ (∃ ln c, (next fuel r).2 = .err (.invalidStart ln c)) ∨
      (next fuel r).2 = .err .bufferLimit := by
  obtain ⟨rest, h⟩ := h
  obtain ⟨r', res, new, hn, _, _, hcase, -⟩ := next_step h hfuel
  rw [hn]
  rcases hcase with hgood | href
  · rcases hgood.1 with h | h
    · exact Or.inl h
    · exact Or.inr (Or.inl h)
  · exact Or.inr (Or.inr href.1)

theorem invW_no_panic_fuel {inp : List UInt8} {r : Reader} {fuel : Nat} (h : InvW inp r)
    (hfuel : inp.length < fuel) : (next fuel r).2 ≠ .panic ∧ (next fuel r).2 ≠ .fuel := by
  rcases invW_next_result h hfuel with ⟨b, hb⟩ | ⟨ln, c, hc⟩ | hc
  · rw [hb]; exact ⟨fun h' => (by cases h'), fun h' => (by cases h')⟩
  · rw [hc]; exact ⟨fun h' => (by cases h'), fun h' => (by cases h')⟩
  · rw [hc]; exact ⟨fun h' => (by cases h'), fun h' => (by cases h')⟩

theorem invW_no_panic {inp : List UInt8} {r : Reader} {fuel : Nat} (h : InvW inp r)
    (hfuel : inp.length < fuel) : (next fuel r).2 ≠ .panic := (invW_no_panic_fuel h hfuel).1

theorem invW_fuel_enough {inp : List UInt8} {r : Reader} {fuel : Nat} (h : InvW inp r)
    (hfuel : inp.length < fuel) : (next fuel r).2 ≠ .fuel := (invW_no_panic_fuel h hfuel).2

theorem invW_next_preserves {inp : List UInt8} {r : Reader} {fuel : Nat} (h : InvW inp r)
    (hfuel : inp.length < fuel) (hne : (next fuel r).2 ≠ .err .bufferLimit) :
    InvW inp (next fuel r).1 := by
  obtain ⟨rest, h⟩ := h
  obtain ⟨r', res, new, hn, _, _, hcase, -⟩ := next_step h hfuel
  rw [hn] at hne ⊢
  rcases hcase with hgood | href
  · exact ⟨_, hgood.inv⟩
  · exact absurd href.1 hne

theorem no_bufferLimit {inp : List UInt8} {r : Reader} {fuel : Nat} (h : Inv inp r)
    (hfuel : inp.length < fuel) : (next fuel r).2 ≠ .err .bufferLimit := by
  obtain ⟨⟨rest, h⟩, hpol⟩ := h
  obtain ⟨r', res, new, hn, _, _, hcase, -⟩ := next_step h hfuel
  rw [hn]
  rcases hcase with hgood | href
  · exact hgood.res_ne
  · exact absurd hpol href.not_grows

theorem next_preserves_inv {inp : List UInt8} {r : Reader} {fuel : Nat} (h : Inv inp r)
    (hfuel : inp.length < fuel) : Inv inp (next fuel r).1 := by
  refine ⟨invW_next_preserves h.1 hfuel (no_bufferLimit h hfuel), ?_⟩
  obtain ⟨⟨rest, h⟩, hpol⟩ := h
  obtain ⟨r', res, new, hn, hg, _, _⟩ := next_step h hfuel
  rw [hn]
  exact polGrows_congr hg.polf hpol

theorem no_panic {inp : List UInt8} {r : Reader} {fuel : Nat} (h : Inv inp r)
    (hfuel : inp.length < fuel) : (next fuel r).2 ≠ .panic := invW_no_panic h.1 hfuel

theorem fuel_enough {inp : List UInt8} {r : Reader} {fuel : Nat} (h : Inv inp r)
    (hfuel : inp.length < fuel) : (next fuel r).2 ≠ .fuel := invW_fuel_enough h.1 hfuel

theorem next_result {inp : List UInt8} {r : Reader} {fuel : Nat} (h : Inv inp r)
    (hfuel : inp.length < fuel) :
    (∃ b, (next fuel r).2 = .ok b) ∨ (∃ ln c, (next fuel r).2 = .err (.invalidStart ln c)) := by
  rcases invW_next_result h.1 hfuel with h1 | h1 | h1
  · exact Or.inl h1
  · exact Or.inr h1
  · exact absurd h1 (no_bufferLimit h hfuel)

theorem mem_specFrom_record {inp : List UInt8} {s ln : Nat} {o : Obs} (h : o ∈ specFrom inp s ln) :
    o ≠ .panic ∧ o ≠ .fuel := by
  unfold specFrom at h
  simp only [List.mem_map] at h
  obtain ⟨_, _, rfl⟩ := h
  exact ⟨(by intro h'; cases h'), (by intro h'; cases h')⟩

theorem mem_specObs_ne {inp : List UInt8} {o : Obs} (ho : o ∈ specObs inp) :
    o ≠ .panic ∧ o ≠ .fuel := by
  unfold specObs at ho
  split at ho
  · simp only [List.mem_map] at ho
    obtain ⟨_, _, rfl⟩ := ho
    exact ⟨(by intro h'; cases h'), (by intro h'; cases h')⟩
  · simp only [List.mem_singleton] at ho
    subst ho
    exact ⟨(by intro h'; cases h'), (by intro h'; cases h')⟩

theorem headD_ne {rest : List Obs} (h : ∀ o ∈ rest, o ≠ .panic ∧ o ≠ .fuel) :
    rest.headD .none ≠ .panic ∧ rest.headD .none ≠ .fuel := by
  cases rest with
  | nil => exact ⟨(by intro h'; cases h'), (by intro h'; cases h')⟩
  | cons o _ => exact h o (by simp)

theorem invW_observe_no_panic {inp : List UInt8} {r : Reader} {fuel : Nat} (h : InvW inp r)
    (hfuel : inp.length < fuel) :
    observe (next fuel r).1 (next fuel r).2 ≠ .panic ∧ observe (next fuel r).1 (next fuel r).2 ≠ .fuel := by
  obtain ⟨rest, h⟩ := h
  have hrest : ∀ o ∈ rest, o ≠ .panic ∧ o ≠ .fuel := by
    cases h with
    | finished hw hst => intro o ho; cases ho
    | new hfb hst hsq => intro o ho; exact mem_specObs_ne ho
    | parsing hw he hst hsl hsple hbyte hgt => intro o ho; exact mem_specFrom_record ho
  obtain ⟨r', res, new, hn, _, _, hcase, -⟩ := next_step h hfuel
  rw [hn]
  rcases hcase with hgood | href
  · rw [hgood.obs]; exact headD_ne hrest
  · rw [href.1]; exact ⟨(by intro h'; cases h'), (by intro h'; cases h')⟩

theorem observe_no_panic {inp : List UInt8} {r : Reader} {fuel : Nat} (h : Inv inp r)
    (hfuel : inp.length < fuel) :
    observe (next fuel r).1 (next fuel r).2 ≠ .panic ∧ observe (next fuel r).1 (next fuel r).2 ≠ .fuel :=
  invW_observe_no_panic h.1 hfuel

theorem invR_mkReader (inp : List UInt8) (cap : Nat) (hcap : 3 ≤ cap) (pol : Pol)
    (hpol : PolWfPos pol) (script : List ReadEv) (hs : NoFail script) (chunk : Nat) :
    InvR inp (mkReader inp cap pol script chunk) (specObs inp) := by
  apply InvR.new
  · refine ⟨⟨⟨rfl, Nat.le_refl _, Nat.zero_le _, ?_, hcap, Nat.zero_le _, hs⟩, hpol⟩, rfl, Or.inl rfl, ?_⟩
    · simp [baseB, mkReader]
    · simp [base, baseB, mkReader]
  · rfl
  · rfl

theorem invW_mkReader (inp : List UInt8) (cap : Nat) (hcap : 3 ≤ cap) (pol : Pol)
    (hpol : PolWfPos pol) (script : List ReadEv) (hs : NoFail script) (chunk : Nat) :
    InvW inp (mkReader inp cap pol script chunk) :=
  ⟨_, invR_mkReader inp cap hcap pol hpol script hs chunk⟩

theorem inv_mkReader (inp : List UInt8) (cap : Nat) (hcap : 3 ≤ cap) (pol : Pol)
    (hpol : PolGrows pol) (script : List ReadEv) (hs : NoFail script) (chunk : Nat) :
    Inv inp (mkReader inp cap pol script chunk) :=
  ⟨invW_mkReader inp cap hcap pol hpol.wfPos script hs chunk, hpol⟩

/-! ## the stream theorems -/

theorem stream_succ (rest : List Obs) (k : Nat) :
    (rest ++ List.replicate (k + 1) Obs.none).take (k + 1) =
      rest.headD .none :: (rest.tail ++ List.replicate k Obs.none).take k := by
  cases rest with
  | nil => simp [List.replicate_succ]
  | cons o rest' =>
    simp only [List.cons_append, List.take_succ_cons, List.headD_cons, List.tail_cons]
    rw [take_append_replicate_succ]

theorem runNexts_succ (k : Nat) (r r' : Reader) (res : Res Bool)
    (h : next (opFuel r.br.src.inp.length r.br.src.script.length) r = (r', res)) :
    runNexts (k + 1) r = observe r' res :: runNexts k r' := by
  rw [runNexts]
  simp only [h]

theorem runNexts_spec {inp : List UInt8} : ∀ (k : Nat) (r : Reader) (rest : List Obs),
    InvR inp r rest → PolGrows r.pol →
    runNexts k r = (rest ++ List.replicate k Obs.none).take k := by
  intro k
  induction k with
  | zero => intro r rest _ _; rfl
  | succ k ih =>
    intro r rest h hpol
    have hinp : r.br.src.inp = inp := h.win.b.inp_eq
    obtain ⟨r', res, new, hn, hg, _, hcase, -⟩ :=
      next_step (fuel := opFuel r.br.src.inp.length r.br.src.script.length) h
        (by rw [hinp]; exact opFuel_gt _ _)
    rcases hcase with hgood | href
    · rw [runNexts_succ k r r' res hn, hgood.obs, ih r' _ hgood.inv (polGrows_congr hg.polf hpol),
        stream_succ]
    · exact absurd hpol href.not_grows

/-- for policies that never refuse a request with a positive capacity: `k` consecutive
`next()` calls yield exactly S's records in order (or S's `InvalidStart` error), followed by
end-of-input forever. -/
theorem fasta_next_stream_polGrows (inp : List UInt8) (cap : Nat) (hcap : 3 ≤ cap) (pol : Pol)
    (hpol : PolGrows pol) (script : List ReadEv) (hs : NoFail script) (chunk : Nat) (k : Nat) :
    runNexts k (mkReader inp cap pol script chunk) =
      (specObs inp ++ List.replicate k Obs.none).take k :=
  runNexts_spec k _ _ (invR_mkReader inp cap hcap pol hpol.wfPos script hs chunk) hpol

theorem fasta_next_stream_std (inp : List UInt8) (cap : Nat) (hcap : 3 ≤ cap)
    (script : List ReadEv) (hs : NoFail script) (chunk : Nat) (k : Nat) :
    runNexts k (mkReader inp cap PolDesc.std.toPol script chunk) =
      (specObs inp ++ List.replicate k Obs.none).take k :=
  fasta_next_stream_polGrows inp cap hcap _ polGrows_std script hs chunk k

theorem fasta_next_stream_doubleUntil (inp : List UInt8) (cap : Nat) (hcap : 3 ≤ cap) (t : Nat)
    (ht : 1 ≤ t) (script : List ReadEv) (hs : NoFail script) (chunk : Nat) (k : Nat) :
    runNexts k (mkReader inp cap (PolDesc.doubleUntil t).toPol script chunk) =
      (specObs inp ++ List.replicate k Obs.none).take k :=
  fasta_next_stream_polGrows inp cap hcap _ (polGrows_doubleUntil t ht) script hs chunk k

theorem fasta_next_stream (inp : List UInt8) (cap : Nat) (hcap : 3 ≤ cap) (pol : Pol)
    (hpol : PolOk pol) (script : List ReadEv) (hs : NoFail script) (chunk : Nat) (k : Nat) :
    runNexts k (mkReader inp cap pol script chunk) =
      (specObs inp ++ List.replicate k Obs.none).take k :=
  fasta_next_stream_polGrows inp cap hcap pol (PolOk.grows hpol) script hs chunk k

/-- the special case of an ideal source and a buffer that holds the whole input -/
theorem fasta_next_stream_single_buffer (inp : List UInt8) (cap : Nat) (hcap : 3 ≤ cap)
    (_hlen : inp.length < cap) (pol : Pol) (hpol : PolOk pol) (k : Nat) :
    runNexts k (mkReader inp cap pol [] 0) =
      (specObs inp ++ List.replicate k Obs.none).take k :=
  fasta_next_stream inp cap hcap pol hpol [] noFail_nil 0 k

/-- `j` is the index of the first `BufferLimit` (`k` if there is none); up to it the observations
are S's stream -/
theorem runNexts_refusing {inp : List UInt8} : ∀ (k : Nat) (r : Reader) (rest : List Obs),
    InvR inp r rest →
    ∃ j, j ≤ k ∧ (runNexts k r).take j = ((rest ++ List.replicate k Obs.none).take k).take j ∧
      (j < k → (runNexts k r)[j]? = some (Obs.error .bufferLimit)) := by
  intro k
  induction k with
  | zero => intro r rest _; exact ⟨0, Nat.le_refl _, rfl, fun h => absurd h (Nat.lt_irrefl _)⟩
  | succ k ih =>
    intro r rest h
    have hinp : r.br.src.inp = inp := h.win.b.inp_eq
    obtain ⟨r', res, new, hn, hg, _, hcase, -⟩ :=
      next_step (fuel := opFuel r.br.src.inp.length r.br.src.script.length) h
        (by rw [hinp]; exact opFuel_gt _ _)
    rw [runNexts_succ k r r' res hn]
    rcases hcase with hgood | href
    · obtain ⟨j, hj, htake, hlim⟩ := ih r' _ hgood.inv
      refine ⟨j + 1, by omega, ?_, ?_⟩
      · rw [stream_succ, List.take_succ_cons, List.take_succ_cons, htake, hgood.obs]
      · intro hlt
        rw [List.getElem?_cons_succ]
        exact hlim (by omega)
    · refine ⟨0, Nat.zero_le _, rfl, fun _ => ?_⟩
      rw [href.1]
      rfl

/-- **C06/C09.** policies that may refuse but answer more than they are passed when they answer -/
theorem fasta_next_stream_refusing (inp : List UInt8) (cap : Nat) (hcap : 3 ≤ cap) (pol : Pol)
    (hpol : PolWfPos pol) (script : List ReadEv) (hs : NoFail script) (chunk : Nat) (k : Nat) :
    ∃ j, j ≤ k ∧
      (runNexts k (mkReader inp cap pol script chunk)).take j =
        ((specObs inp ++ List.replicate k Obs.none).take k).take j ∧
      (j < k → (runNexts k (mkReader inp cap pol script chunk))[j]? = some (Obs.error .bufferLimit)) :=
  runNexts_refusing k _ _ (invR_mkReader inp cap hcap pol hpol script hs chunk)

end SeqIo.Fasta
