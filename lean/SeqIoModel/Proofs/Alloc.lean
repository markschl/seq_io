import SeqIoModel.Model.Alloc
/-!
# Ghost capacities (properties C18 and C16)

Capacities never shrink, a container that already held `n` elements takes `n` elements again without
allocating, and a call all of whose containers stay within what they already held allocates nothing
(C18).  A vector cleared and refilled any number of times never has more than twice the room of its
largest refill (C16).
-/

namespace SeqIo.Alloc

theorem amortized_ge_need (mnz cap need : Nat) : need ≤ amortized mnz cap need :=
  Nat.le_trans (Nat.le_max_right ..) (Nat.le_max_left ..)

/-- growing a vector too small for `need ≤ M` elements stays below twice the largest demand -/
theorem amortized_bound {mnz cap need M : Nat} (hlt : cap < need) (hM : need ≤ M) :
    amortized mnz cap need ≤ max mnz (2 * M) := by
  unfold amortized; omega

theorem pushTo_noop (mnz fuel cap target : Nat) (h : target ≤ cap) : pushTo mnz fuel cap target = (cap, 0) := by
  cases fuel with
  | zero => rfl
  | succ f => simp [pushTo, h]

/-- what holds of the capacity before the pushes and survives every re-allocation holds afterwards -/
theorem pushTo_inv (mnz target : Nat) (P : Nat → Prop)
    (step : ∀ c, c < target → P c → P (amortized mnz c (c + 1))) :
    ∀ fuel cap, P cap → P (pushTo mnz fuel cap target).1
  | 0, _, h => h
  | f + 1, cap, h => by
    unfold pushTo
    split
    · exact h
    · exact pushTo_inv mnz target P step f _ (step cap (by omega) h)

/-- with fuel `≥ target - cap` the vector ends up large enough -/
theorem pushTo_reaches (mnz : Nat) : ∀ (fuel cap target : Nat), target ≤ cap + fuel →
    target ≤ (pushTo mnz fuel cap target).1
  | 0, cap, target, h => h
  | f + 1, cap, target, h => by
    unfold pushTo
    split
    · assumption
    · have := amortized_ge_need mnz cap (cap + 1)
      exact pushTo_reaches mnz f _ target (by omega)

/-- a re-allocation is counted exactly when the capacity did not suffice -/
theorem pushTo_count_zero_iff (mnz fuel cap target : Nat) (hf : 0 < fuel) :
    (pushTo mnz fuel cap target).2 = 0 ↔ target ≤ cap := by
  cases fuel with
  | zero => omega
  | succ f =>
    unfold pushTo
    split <;> simp_all

/-! ## `Cap` -/

theorem Cap.push_lb_mono (mnz : Nat) (c : Cap) (t : Nat) : c.lb ≤ (c.push mnz t).1.lb := by
  unfold Cap.push
  split
  · exact Nat.le_refl _
  · split
    · exact pushTo_inv mnz t (c.lb ≤ ·)
        (fun k _ h => Nat.le_trans h (Nat.le_of_succ_le (amortized_ge_need mnz k (k + 1)))) t _ (Nat.le_refl _)
    · exact Nat.le_of_not_le ‹_›

theorem Cap.push_lb_ge (mnz : Nat) (c : Cap) (t : Nat) : t ≤ (c.push mnz t).1.lb := by
  unfold Cap.push
  split
  · assumption
  · split
    · exact pushTo_reaches mnz t c.lb t (Nat.le_add_left ..)
    · exact Nat.le_refl _

theorem Cap.push_fits (mnz : Nat) (c : Cap) (t : Nat) (h : t ≤ c.lb) : c.push mnz t = (c, some 0) := by
  simp [Cap.push, h]

theorem Cap.extend_lb_mono (mnz : Nat) (c : Cap) (n : Nat) : c.lb ≤ (c.extend mnz n).1.lb := by
  unfold Cap.extend
  split
  · exact Nat.le_refl _
  · split
    · exact Nat.le_trans (Nat.le_of_not_le ‹_›) (amortized_ge_need ..)
    · exact Nat.le_of_not_le ‹_›

theorem Cap.extend_lb_ge (mnz : Nat) (c : Cap) (n : Nat) : n ≤ (c.extend mnz n).1.lb := by
  unfold Cap.extend
  split
  · assumption
  · split
    · exact amortized_ge_need ..
    · exact Nat.le_refl _

theorem Cap.extend_fits (mnz : Nat) (c : Cap) (n : Nat) (h : n ≤ c.lb) : c.extend mnz n = (c, some 0) := by
  simp [Cap.extend, h]

/-- a vector that was pushed up to `t` elements takes `t' ≤ t` elements again without allocating -/
theorem Cap.push_steady (mnz : Nat) (c : Cap) (t t' : Nat) (h : t' ≤ t) :
    (c.push mnz t).1.push mnz t' = ((c.push mnz t).1, some 0) :=
  Cap.push_fits mnz _ t' (Nat.le_trans h (Cap.push_lb_ge mnz c t))

theorem Cap.extend_steady (mnz : Nat) (c : Cap) (n n' : Nat) (h : n' ≤ n) :
    (c.extend mnz n).1.extend mnz n' = ((c.extend mnz n).1, some 0) :=
  Cap.extend_fits mnz _ n' (Nat.le_trans h (Cap.extend_lb_ge mnz c n))

@[simp] theorem Cnt.add_zero_zero : Cnt.add (some 0) (some 0) = some 0 := rfl

/-! ## Memory is bounded by the largest demand, not by the length of the history (C16) -/

/-- a vector filled by single pushes never has more than twice the room of the largest fill (or the minimum
non-zero capacity), however many times it is cleared and refilled -/
theorem Cap.push_bound (mnz M : Nat) (c : Cap) (t : Nat) (ht : t ≤ M) (hc : c.lb ≤ max mnz (2 * M)) :
    (c.push mnz t).1.lb ≤ max mnz (2 * M) := by
  unfold Cap.push
  split
  · exact hc
  · split
    · exact pushTo_inv mnz t (· ≤ max mnz (2 * M))
        (fun k hk _ => amortized_bound (Nat.lt_succ_self k) (Nat.le_trans hk ht)) t _ hc
    · exact Nat.le_trans ht (by omega)

theorem Cap.extend_bound (mnz M : Nat) (c : Cap) (n : Nat) (hn : n ≤ M) (hc : c.lb ≤ max mnz (2 * M)) :
    (c.extend mnz n).1.lb ≤ max mnz (2 * M) := by
  unfold Cap.extend
  split
  · exact hc
  · split
    · exact amortized_bound (Nat.lt_of_not_le ‹_›) hn
    · exact Nat.le_trans hn (by omega)

/-- any history of refills of one vector, of any length: a bound that every refill respects holds at the end -/
theorem history_bound {op : Cap → Nat → Cap × Cnt} {M B : Nat}
    (hop : ∀ c n, n ≤ M → c.lb ≤ B → (op c n).1.lb ≤ B) (c : Cap) (ns : List Nat)
    (hns : ∀ n ∈ ns, n ≤ M) (hc : c.lb ≤ B) : (ns.foldl (fun c n => (op c n).1) c).lb ≤ B := by
  induction ns generalizing c with
  | nil => exact hc
  | cons n ns ih =>
    exact ih _ (fun m hm => hns m (List.mem_cons_of_mem _ hm)) (hop c n (hns n (List.mem_cons_self ..)) hc)

/-- any history of refills of one vector (`clear(); extend(n_i)`), of any length: the capacity stays below
twice the largest refill -/
theorem extend_history_bound (mnz M : Nat) (c : Cap) (ns : List Nat) (hns : ∀ n ∈ ns, n ≤ M)
    (hc : c.lb ≤ max mnz (2 * M)) :
    (ns.foldl (fun c n => (c.extend mnz n).1) c).lb ≤ max mnz (2 * M) :=
  history_bound (Cap.extend_bound mnz M) c ns hns hc

theorem push_history_bound (mnz M : Nat) (c : Cap) (ns : List Nat) (hns : ∀ n ∈ ns, n ≤ M)
    (hc : c.lb ≤ max mnz (2 * M)) :
    (ns.foldl (fun c n => (c.push mnz n).1) c).lb ≤ max mnz (2 * M) :=
  history_bound (Cap.push_bound mnz M) c ns hns hc

/-! ## FASTA -/

namespace Fa
open Fasta

/-- every stored position fits the slot it goes into, and there is a slot for each -/
def SlotsFit : List Cap → List BufPos → Prop
  | _, [] => True
  | [], _ :: _ => False
  | c :: cs, bp :: bps => bp.seqPos.length ≤ c.lb ∧ SlotsFit cs bps

theorem slotsStep_fits : ∀ (cs : List Cap) (bps : List BufPos), SlotsFit cs bps →
    slotsStep cs bps = (cs.take bps.length, some 0)
  | cs, [], _ => by cases cs <;> simp [slotsStep]
  | [], _ :: _, h => by simp [SlotsFit] at h
  | c :: cs, bp :: bps, h => by
    obtain ⟨h1, h2⟩ := h
    simp [slotsStep, Cap.extend_fits 4 c _ h1, slotsStep_fits cs bps h2]

theorem slotsStep_then_fit (cs : List Cap) (bps : List BufPos) : SlotsFit (slotsStep cs bps).1 bps := by
  fun_induction slotsStep cs bps
  · trivial
  · exact ⟨Nat.le_refl _, ‹_›⟩
  · exact ⟨Cap.extend_lb_ge 4 _ _, ‹_›⟩

/-- pointwise "no larger": fewer or as many positions, each with no more lines -/
def NoLarger : List BufPos → List BufPos → Prop
  | [], _ => True
  | _ :: _, [] => False
  | b :: bs, a :: as => b.seqPos.length ≤ a.seqPos.length ∧ NoLarger bs as

theorem slotsFit_of_noLarger (cs : List Cap) (as bs : List BufPos) (h : SlotsFit cs as) (hn : NoLarger bs as) :
    SlotsFit cs bs := by
  fun_induction NoLarger bs as generalizing cs
  · cases cs <;> trivial
  · cases hn
  · rename_i ih
    cases cs
    · cases h
    · exact ⟨Nat.le_trans hn.1 h.1, ih _ h.2 hn.2⟩

theorem noLarger_length (bs as : List BufPos) (h : NoLarger bs as) : bs.length ≤ as.length := by
  fun_induction NoLarger bs as
  · exact Nat.zero_le _
  · cases h
  · rename_i ih
    exact Nat.succ_le_succ (ih h.2)

theorem maxLen_foldl (l : List BufPos) (m : Nat) :
    l.foldl (fun m bp => max m bp.seqPos.length) m = max m (maxLen l) := by
  unfold maxLen
  induction l generalizing m with
  | nil => simp
  | cons a l ih => rw [List.foldl_cons, List.foldl_cons, ih, ih (max 0 _), Nat.zero_max, Nat.max_assoc]

theorem maxLen_foldl_mono (l : List BufPos) (m m' : Nat) (h : m ≤ m') :
    l.foldl (fun m bp => max m bp.seqPos.length) m ≤ l.foldl (fun m bp => max m bp.seqPos.length) m' := by
  rw [maxLen_foldl, maxLen_foldl]
  exact Nat.max_le.mpr ⟨Nat.le_trans h (Nat.le_max_left ..), Nat.le_max_right ..⟩

theorem maxLen_noLarger : ∀ (bs as : List BufPos), NoLarger bs as → maxLen bs ≤ maxLen as
  | [], _, _ => Nat.zero_le _
  | _ :: _, [], h => by simp [NoLarger] at h
  | b :: bs, a :: as, h => by
    simp only [maxLen, List.foldl_cons]
    rw [maxLen_foldl, maxLen_foldl, Nat.zero_max, Nat.zero_max]
    exact Nat.max_le.mpr ⟨Nat.le_trans h.1 (Nat.le_max_left ..),
      Nat.le_trans (maxLen_noLarger bs as h.2) (Nat.le_max_right ..)⟩

/-- a set read all of whose containers stay within what they hold room for allocates nothing and
leaves every capacity as it is -/
theorem setStep_fits (seqCap : Cap) (sc : SetCaps) (rs' : RecordSet) (r' : Reader) (copied : Bool)
    (hseq : max (maxLen rs'.positions) r'.bp.seqPos.length ≤ seqCap.lb)
    (hslots : SlotsFit sc.slots rs'.positions) (hlen : sc.slots.length = rs'.positions.length)
    (hpos : rs'.positions.length ≤ sc.pos.lb) (hbuf : rs'.buffer.length ≤ sc.buf.lb) :
    setStep seqCap sc rs' r' copied = (seqCap, sc, some 0) := by
  unfold setStep
  rw [Cap.push_fits 4 seqCap _ hseq, slotsStep_fits _ _ hslots, Cap.push_fits 4 sc.pos _ hpos]
  cases copied <;> simp [Cap.extend_fits 8 sc.buf _ hbuf, ← hlen]

/-- `next()` (or a seek): a record with no more lines than `seq_pos` has room for allocates nothing -/
theorem readerStep_fits (seqCap : Cap) (r' : Reader) (h : r'.bp.seqPos.length ≤ seqCap.lb) :
    readerStep seqCap r' = (seqCap, some 0) :=
  Cap.push_fits 4 seqCap _ h

/-- steady state of `next()`: after a record with `n` lines, any record with at most `n` lines is
returned without allocation and without change of capacity -/
theorem next_steady (seqCap : Cap) (r1 r2 : Reader) (h : r2.bp.seqPos.length ≤ r1.bp.seqPos.length) :
    readerStep (readerStep seqCap r1).1 r2 = ((readerStep seqCap r1).1, some 0) :=
  Cap.push_steady 4 seqCap _ _ h

theorem slotsStep_length (cs : List Cap) (bps : List BufPos) : (slotsStep cs bps).1.length = bps.length := by
  fun_induction slotsStep cs bps
  · rfl
  all_goals exact congrArg (· + 1) ‹_›

/-- steady state of a reused FASTA record set: after a successful batch, a batch that is no larger –
position by position no more lines, no more buffered bytes, the record the reader stops in no longer than
anything seen – is stored without allocation and without change of any capacity -/
theorem set_steady (seqCap : Cap) (sc : SetCaps) (rs1 rs2 : RecordSet) (r1 r2 : Reader) (c2 : Bool)
    (hn : NoLarger rs2.positions rs1.positions) (hlen : rs1.positions.length ≤ rs2.positions.length)
    (hr : r2.bp.seqPos.length ≤ max (maxLen rs1.positions) r1.bp.seqPos.length)
    (hb : rs2.buffer.length ≤ rs1.buffer.length) :
    setStep (setStep seqCap sc rs1 r1 true).1 (setStep seqCap sc rs1 r1 true).2.1 rs2 r2 c2 =
      ((setStep seqCap sc rs1 r1 true).1, (setStep seqCap sc rs1 r1 true).2.1, some 0) := by
  have hl : rs2.positions.length = rs1.positions.length := by
    have := noLarger_length _ _ hn; omega
  apply setStep_fits
  · have h1 := Cap.push_lb_ge 4 seqCap (max (maxLen rs1.positions) r1.bp.seqPos.length)
    exact Nat.max_le.mpr ⟨Nat.le_trans (maxLen_noLarger _ _ hn) (Nat.le_trans (Nat.le_max_left ..) h1),
      Nat.le_trans hr h1⟩
  · simp only [setStep]
    exact slotsFit_of_noLarger _ _ _ (slotsStep_then_fit sc.slots rs1.positions) hn
  · simp only [setStep, slotsStep_length, hl]
  · simp only [setStep, hl]; exact Cap.push_lb_ge 4 sc.pos _
  · simp only [setStep, if_true]; exact Nat.le_trans hb (Cap.extend_lb_ge 8 sc.buf _)

/-- a whole history of `next()` calls (the readers after each call): capacities and counts -/
def runNextSteps (c : Cap) : List Reader → Cap × List Cnt
  | [] => (c, [])
  | r :: rs =>
    let s := readerStep c r
    let t := runNextSteps s.1 rs
    (t.1, s.2 :: t.2)

theorem runNextSteps_lb_mono (c : Cap) (rs : List Reader) : c.lb ≤ (runNextSteps c rs).1.lb := by
  induction rs generalizing c with
  | nil => simp [runNextSteps]
  | cons r rs ih =>
    simp only [runNextSteps]
    exact Nat.le_trans (Cap.push_lb_mono 4 c _) (ih _)

theorem runNextSteps_lb_ge (c : Cap) (rs : List Reader) (r : Reader) (h : r ∈ rs) :
    r.bp.seqPos.length ≤ (runNextSteps c rs).1.lb := by
  induction rs generalizing c with
  | nil => simp at h
  | cons a rs ih =>
    simp only [runNextSteps]
    rcases List.mem_cons.mp h with h | h
    · subst h
      exact Nat.le_trans (Cap.push_lb_ge 4 c _) (runNextSteps_lb_mono _ rs)
    · exact ih _ h

theorem runNextSteps_append (c : Cap) (a b : List Reader) :
    runNextSteps c (a ++ b) =
      ((runNextSteps (runNextSteps c a).1 b).1, (runNextSteps c a).2 ++ (runNextSteps (runNextSteps c a).1 b).2) := by
  induction a generalizing c with
  | nil => simp [runNextSteps]
  | cons x a ih => simp [runNextSteps, ih]

theorem runNextSteps_getElem? (c : Cap) (L : List Reader) (j : Nat) :
    (runNextSteps c L).2[j]? = L[j]?.map fun q => (readerStep (runNextSteps c (L.take j)).1 q).2 := by
  induction L generalizing c j with
  | nil => rfl
  | cons a L ih =>
    cases j with
    | zero => rfl
    | succ j => exact ih _ j

/-- in ANY history of `next()` calls, a call that returns a record with no more lines than some record
returned earlier (or than `seq_pos` had room for initially) allocates nothing -/
theorem next_history_steady (c : Cap) (before : List Reader) (r : Reader)
    (h : r.bp.seqPos.length ≤ c.lb ∨ ∃ q ∈ before, r.bp.seqPos.length ≤ q.bp.seqPos.length) :
    (runNextSteps c (before ++ [r])).2 = (runNextSteps c before).2 ++ [some 0] := by
  rw [runNextSteps_append]
  have hfit : r.bp.seqPos.length ≤ (runNextSteps c before).1.lb := by
    rcases h with h | ⟨q, hq, hle⟩
    · exact Nat.le_trans h (runNextSteps_lb_mono c before)
    · exact Nat.le_trans hle (runNextSteps_lb_ge c before q hq)
  simp [runNextSteps, readerStep_fits _ _ hfit]

end Fa

/-! ## FASTQ -/

namespace Fq
open Fastq

theorem setStep_fits (sc : SetCaps) (rs' : RecordSet) (copied : Bool)
    (hpos : rs'.positions.length ≤ sc.pos.lb) (hbuf : rs'.buffer.length ≤ sc.buf.lb) :
    setStep sc rs' copied false = (sc, some 0) := by
  unfold setStep
  cases copied <;> simp [Cap.push_fits 4 sc.pos _ hpos, Cap.extend_fits 8 sc.buf _ hbuf]

/-- steady state of a reused FASTQ record set: after a successful batch, a batch with no more records
and no more buffered bytes is stored without allocation -/
theorem set_steady (sc : SetCaps) (rs1 rs2 : RecordSet) (c1 c2 : Bool)
    (hn : rs2.positions.length ≤ rs1.positions.length)
    (hb : rs2.buffer.length ≤ rs1.buffer.length) (hc : c2 = true → c1 = true) :
    setStep (setStep sc rs1 c1 false).1 rs2 c2 false = ((setStep sc rs1 c1 false).1, some 0) := by
  cases c2 with
  | false =>
    have hp := Cap.push_steady 4 sc.pos _ _ hn
    cases c1 <;> simp [setStep, hp]
  | true =>
    have hc1 : c1 = true := hc rfl
    subst hc1
    apply setStep_fits
    · simp [setStep]; exact Nat.le_trans hn (Cap.push_lb_ge 4 sc.pos _)
    · simp [setStep]; exact Nat.le_trans hb (Cap.extend_lb_ge 8 sc.buf _)

end Fq

end SeqIo.Alloc
