import SeqIoModel.Proofs.FastaSeekAfterFault
/-!
# C06, order (FASTA): after errors, further records come in order

`fasta_history_genuine` says that every record shown is a record of S.  Here: along a history
without seeks the delivered records (single reads, owned reads, batches, in the order of the calls)
form a sub-sequence of S's records, whatever errors occur in between.  `KInv inp r k` exposes the
cursor `k`; every read moves it forward only (`nextK`, `readSetK`) and delivers a segment of S's
records between the old and the new cursor (`stepK`).
-/
open SeqIo SeqIo.FillProofs SeqIo.Spec

namespace SeqIo.Fasta.Hist

/-! ## histories: what is delivered, in the order of the calls -/

/-- header and concatenated sequence of a record -/
abbrev Flat := List UInt8 × List UInt8

def flatOf (rc : FaRec) : Flat := (rc.head, rc.seq)

def flatView (v : RecView) : Flat := (v.1, v.2.flatten)

theorem flatView_view (rc : FaRec) : flatView (view rc) = flatOf rc := rfl

/-- the record shown by a single read (`next` with all sequence lines, or an owned read) -/
def single : ObsH → List Flat
  | .record h ls => [(h, ls.flatten)]
  | .owned h s => [(h, s)]
  | _ => []

def singles : List ObsH → List Flat
  | [] => []
  | o :: os => single o ++ singles os

def shown : ObsH → List Flat
  | .dump l => l.map flatView
  | _ => []

/-- the records one operation delivers: the record of a single read, and for a record set read
that returned `Some(Ok(()))` the records a `dump` of that set shows right after the call -/
def deliveredBy (m : MSt) : Op → List Flat
  | .set j n =>
    match (stepM m (.set j n)).2 with
    | .batch _ => shown (stepM (stepM m (.set j n)).1 (.dump j)).2
    | _ => []
  | op => single (stepM m op).2

def delivered (m : MSt) : List Op → List Flat
  | [] => []
  | op :: ops => deliveredBy m op ++ delivered (stepM m op).1 ops

def seg (inp : List UInt8) (k c : Nat) : List Flat := (((recsOf inp).drop k).take c).map flatOf

theorem seg_zero (inp : List UInt8) (k : Nat) : seg inp k 0 = [] := by
  simp [seg]

theorem seg_one {inp : List UInt8} {k : Nat} {rc : FaRec} (h : (recsOf inp)[k]? = some rc) :
    seg inp k 1 = [flatOf rc] := by
  unfold seg
  rw [ListFacts.drop_take_one _ _ _ h]
  rfl

theorem single_obsSet (rs : RecordSet) (res : Res Bool) : single (obsSet rs res) = [] := by
  rcases res with (b | _ | _ | _)
  · cases b <;> rfl
  all_goals rfl

theorem single_obsDump (rs : RecordSet) : single (obsDump rs) = [] := by
  unfold obsDump
  split <;> rfl

/-- a record set read, with the cursor: the cursor moves forward, and a batch of `c` records is the
segment `k0 … k0 + c - 1` (`k0 ≥ k`, `c ≥ 1`) of S's records – this is what a `dump` of the set
shows right after the call – and leaves the cursor at `k0 + c` -/
theorem set_stepK {inp : List UInt8} {m : MSt} {k : Nat} (h : KInv inp m.r k) (j : Nat)
    (n : Option Nat) :
    ∃ k', k ≤ k' ∧ KInv inp (stepM m (.set j n)).1.r k' ∧
      ∀ c, (stepM m (.set j n)).2 = .batch c →
        ∃ k0, k ≤ k0 ∧ k0 + c = k' ∧ 1 ≤ c ∧ k0 + c ≤ (recsOf inp).length ∧
          (stepM (stepM m (.set j n)).1 (.dump j)).2 =
            .dump ((((recsOf inp).drop k0).take c).map view) := by
  rcases stepM_set_cases m j n with e | ⟨rs, hj, e⟩
  · rw [e]
    exact ⟨k, Nat.le_refl _, h, fun c hc => by cases hc⟩
  · obtain ⟨r', rs', res, k0, hread, _, hk0, hout⟩ := readSetK h h.toW.win.fuel rs n
    rw [e _ _ _ hread]
    rcases hout with ⟨hres, hbuf, hpos, hacc, hinv⟩ | ⟨hres, _, hinv⟩
    · subst hres
      refine ⟨k0 + rs'.npos, Nat.le_trans hk0 (Nat.le_add_right _ _), hinv, ?_⟩
      intro c hc
      have hc' : rs'.npos = c := by
        simp only [obsSet] at hc
        injection hc
      subst hc'
      have hlen : k0 + rs'.npos ≤ (recsOf inp).length := by
        obtain ⟨bp, rc, _, h2, _⟩ := hacc.recs (rs'.npos - 1) (by omega)
        have := (List.getElem?_eq_some_iff.mp h2).1
        omega
      refine ⟨k0, hk0, rfl, hpos, hlen, ?_⟩
      have hget : (m.sets.set j rs')[j]? = some rs' :=
        List.getElem?_set_self (List.getElem?_eq_some_iff.mp hj).1
      simp only [stepM, hget]
      exact setOk_of_acc hinv.toW.win hacc hbuf
    · refine ⟨k0, hk0, hinv, ?_⟩
      intro c hc
      rcases hres with h' | ⟨e', h'⟩ <;> subst h' <;> cases hc

theorem NextOut.delivered {inp : List UInt8} {j : Nat} {r' : Reader} {res : Res Bool}
    (h : NextOut inp j r' res) :
    ∃ c, KInv inp r' (j + c) ∧ single (obsNext r' res) = seg inp j c ∧
      single (obsOwned r' res) = seg inp j c := by
  rcases h with ⟨hres, hg, hinv⟩ | ⟨hres, hinv⟩
  · subst hres
    obtain ⟨rc, hk, h1, h2⟩ := hg.obs
    refine ⟨1, hinv, ?_, ?_⟩
    · rw [h1, seg_one hk]; rfl
    · rw [h2, seg_one hk]; rfl
  · refine ⟨0, hinv, ?_⟩
    rw [seg_zero]
    rcases hres with h' | ⟨e', h'⟩ <;> subst h' <;> exact ⟨rfl, rfl⟩

/-- **every operation but a seek moves the cursor forward only, and what it delivers is a segment
of S's records between the old and the new cursor** -/
theorem stepK {inp : List UInt8} {m : MSt} {k : Nat} (h : KInv inp m.r k) (op : Op)
    (hop : op.isSeek = false) :
    ∃ k1 c k', k ≤ k1 ∧ k1 + c ≤ k' ∧ KInv inp (stepM m op).1.r k' ∧
      deliveredBy m op = seg inp k1 c := by
  have hnext := nextK (fuel := fuelOf m.r) h (by have := h.toW.win.fuel; omega)
  cases op with
  | next | owned =>
    obtain ⟨r', res, j, hnext, _, hj, hout⟩ := hnext
    obtain ⟨c, hinv, hs, hs'⟩ := hout.delivered
    simp only [deliveredBy, stepM, hnext]
    exact ⟨j, c, j + c, hj, Nat.le_refl _, hinv, by assumption⟩
  | set j n =>
    obtain ⟨k', hk', hinv, hbatch⟩ := set_stepK h j n
    simp only [deliveredBy]
    cases ho : (stepM m (.set j n)).2 with
    | batch c =>
      obtain ⟨k0, hk0, hkc, _, _, hdump⟩ := hbatch c ho
      refine ⟨k0, c, k', hk0, Nat.le_of_eq hkc, hinv, ?_⟩
      simp only [hdump, shown, seg, List.map_map]
      apply List.map_congr_left
      intro rc _
      rfl
    | _ => exact ⟨k', 0, k', hk', Nat.le_refl _, hinv, by rw [seg_zero]⟩
  | dump j =>
    refine ⟨k, 0, k, Nat.le_refl _, Nat.le_refl _, ?_⟩
    rw [seg_zero]
    show KInv inp (stepM m (.dump j)).1.r k ∧ single (stepM m (.dump j)).2 = []
    rcases stepM_dump_cases m j with e | ⟨rs, _, e⟩ <;> rw [e]
    · exact ⟨h, rfl⟩
    · exact ⟨h, single_obsDump rs⟩
  | pos => exact ⟨k, 0, k, Nat.le_refl _, Nat.le_refl _, h, by rw [seg_zero]; rfl⟩
  | seekRec i => cases hop

/-! ## whole histories -/

theorem seg_append_sublist (inp : List UInt8) {k k1 c k' : Nat} (h1 : k ≤ k1) (h2 : k1 + c ≤ k')
    {l : List Flat} (hl : l.Sublist (((recsOf inp).drop k').map flatOf)) :
    (seg inp k1 c ++ l).Sublist (((recsOf inp).drop k).map flatOf) := by
  have e : (recsOf inp).drop k1 =
      ((recsOf inp).drop k1).take c ++ (recsOf inp).drop (k1 + c) := by
    rw [← List.drop_drop, List.take_append_drop]
  have s1 : ((recsOf inp).drop k').Sublist ((recsOf inp).drop (k1 + c)) :=
    List.drop_sublist_drop_left _ h2
  have s2 : ((recsOf inp).drop k1).Sublist ((recsOf inp).drop k) :=
    List.drop_sublist_drop_left _ h1
  have s3 : (seg inp k1 c ++ l).Sublist (((recsOf inp).drop k1).map flatOf) := by
    rw [e, List.map_append]
    exact List.Sublist.append (List.Sublist.refl _) (hl.trans (s1.map _))
  exact s3.trans (s2.map _)

theorem delivered_sublist {inp : List UInt8} : ∀ (ops : List Op) (m : MSt) (k : Nat),
    KInv inp m.r k → SeekFree ops →
    (delivered m ops).Sublist (((recsOf inp).drop k).map flatOf) := by
  intro ops
  induction ops with
  | nil => intro m k _ _; exact List.nil_sublist _
  | cons op ops ih =>
    intro m k h hsf
    obtain ⟨k1, c, k', h1, h2, hinv, hd⟩ := stepK h op (hsf op List.mem_cons_self)
    have := ih (stepM m op).1 k' hinv (fun o ho => hsf o (List.mem_cons_of_mem _ ho))
    show (deliveredBy m op ++ delivered (stepM m op).1 ops).Sublist _
    rw [hd]
    exact seg_append_sublist inp h1 h2 this

theorem single_stepM_set (m : MSt) (j : Nat) (n : Option Nat) :
    single (stepM m (.set j n)).2 = [] := by
  rcases stepM_set_cases m j n with e | ⟨rs, _, e⟩
  · rw [e]; rfl
  · rw [e _ _ _ rfl]; exact single_obsSet _ _

theorem singles_sublist_delivered : ∀ (ops : List Op) (m : MSt),
    (singles (runM m ops)).Sublist (delivered m ops) := by
  intro ops
  induction ops with
  | nil => intro m; exact List.Sublist.refl _
  | cons op ops ih =>
    intro m
    show (single (stepM m op).2 ++ singles (runM (stepM m op).1 ops)).Sublist
      (deliveredBy m op ++ delivered (stepM m op).1 ops)
    refine List.Sublist.append ?_ (ih _)
    cases op with
    | set j n => rw [single_stepM_set]; exact List.nil_sublist _
    | _ => exact List.Sublist.refl _

/-- **C06, order, all deliveries.** For every input, capacity ≥ 3, policy that answers more than
it is passed or refuses, read script (failures of any kind at any call), scripted seek failures and
history WITHOUT seeks: all records delivered – by `next`, by owned reads and by record set reads
(each batch as a `dump` right after the call shows it), in the order of the calls – form a
sub-sequence of S's records: none twice, none out of order, whatever errors occur in between. -/
theorem fasta_all_delivered_in_order_after_faults (inp : List UInt8) (cap : Nat) (hcap : 3 ≤ cap)
    (pol : Pol) (hpol : PolWfPos pol) (script : List ReadEv) (chunk : Nat)
    (seekFails : List (Nat × IoKind)) (ops : List Op) (hsf : SeekFree ops) :
    List.Sublist (delivered (mkMStF inp cap pol script chunk seekFails) ops)
      ((items inp).recs.map fun rc => (rc.head, rc.seq)) :=
  delivered_sublist ops _ 0 (KInv.fresh (newF_init inp cap hcap pol hpol script chunk seekFails) rfl) hsf

/-- **C06, order, single reads.** The records returned by single reads (`next` / owned reads) form,
in the order they were returned, a sub-sequence of S's records – whatever errors occurred in between
and whatever set reads were interleaved. -/
theorem fasta_records_in_order_after_faults (inp : List UInt8) (cap : Nat) (hcap : 3 ≤ cap)
    (pol : Pol) (hpol : PolWfPos pol) (script : List ReadEv) (chunk : Nat)
    (seekFails : List (Nat × IoKind)) (ops : List Op) (hsf : SeekFree ops) :
    List.Sublist (singles (runM (mkMStF inp cap pol script chunk seekFails) ops))
      ((items inp).recs.map fun rc => (rc.head, rc.seq)) :=
  (singles_sublist_delivered ops _).trans
    (fasta_all_delivered_in_order_after_faults inp cap hcap pol hpol script chunk seekFails ops hsf)

/-- **every batch is a contiguous segment** (histories WITH seeks included): whenever, after any
history, a record set read returns `Some(Ok(()))` with `c` records, a `dump` of that set right
after the call shows exactly the records `k0, …, k0 + c - 1` of S for some `k0`; and `c ≥ 1`. -/
theorem fasta_batch_contiguous_after_faults (inp : List UInt8) (cap : Nat) (hcap : 3 ≤ cap)
    (pol : Pol) (hpol : PolWfPos pol) (script : List ReadEv) (chunk : Nat)
    (seekFails : List (Nat × IoKind)) (ops : List Op) (j : Nat) (n : Option Nat) (c : Nat) (o : ObsH)
    (h : runM (mkMStF inp cap pol script chunk seekFails) (ops ++ [.set j n, .dump j]) =
      runM (mkMStF inp cap pol script chunk seekFails) ops ++ [.batch c, o]) :
    ∃ k0, 1 ≤ c ∧ k0 + c ≤ (items inp).recs.length ∧
      o = .dump ((((items inp).recs.drop k0).take c).map view) := by
  rw [runM_append] at h
  have h' := List.append_cancel_left h
  generalize hm : runMSt (mkMStF inp cap pol script chunk seekFails) ops = m at h'
  have hw : WHInv inp m := by
    rw [← hm]
    exact (whinv_runMSt ops _ (whinv_init inp cap hcap pol hpol script chunk seekFails)).1
  obtain ⟨k, hk⟩ := hw.rd.exists_k
  obtain ⟨k', _, _, hbatch⟩ := set_stepK hk j n
  have e : runM m [.set j n, .dump j] =
      [(stepM m (.set j n)).2, (stepM (stepM m (.set j n)).1 (.dump j)).2] := rfl
  rw [e] at h'
  simp only [List.cons.injEq, and_true] at h'
  obtain ⟨k0, _, _, hc, hlen, hdump⟩ := hbatch c h'.1
  exact ⟨k0, hc, hlen, by rw [← h'.2]; exact hdump⟩

end SeqIo.Fasta.Hist

/-! ## non-vacuity: concrete data (checked by `decide`) -/

namespace SeqIo.Fasta.OrderAfterFaultExample
open SeqIo.Fasta.Hist

/-- `>a\nAC\n>b\nG\n>c\nT\n` -/
def inp : List UInt8 := [62, 97, 10, 65, 67, 10, 62, 98, 10, 71, 10, 62, 99, 10, 84, 10]

example : ((items inp).recs.map fun rc => (rc.head, rc.seq)) =
    [([97], [65, 67]), ([98], [71]), ([99], [84])] := by decide +kernel

/-- capacity 4; the first refill hands out 5 bytes (4 fit) and the next one fails: an error in the
middle, after which reading goes on – all three records, in order -/
def m1 : MSt := mkMStF inp 4 PolDesc.std.toPol [.data 5, .fail 0] 0 []

example : runM m1 [.next, .next, .next, .next, .next] =
    [.error (.io 0), .record [97] [[65, 67]], .record [98] [[71]], .record [99] [[84]], .none] := by
  decide +kernel

example : singles (runM m1 [.next, .next, .next, .next, .next]) =
    [([97], [65, 67]), ([98], [71]), ([99], [84])] := by decide +kernel

/-- two errors in a row, an owned read in between -/
def m2 : MSt := mkMStF inp 4 PolDesc.std.toPol [.data 5, .fail 0, .data 4, .fail 1] 0 []

example : runM m2 [.next, .next, .owned, .next, .next, .next] =
    [.error (.io 0), .error (.io 1), .owned [97] [65, 67], .record [98] [[71]], .record [99] [[84]],
      .none] := by decide +kernel

/-- a batch, an error of a single read in the middle, a single read, another batch: everything
delivered is, in order, all of S's records; the old set keeps its contents -/
def m5 : MSt := mkMStF inp 8 PolDesc.std.toPol [.data 8, .fail 2] 0 []

example : runM m5 [.set 0 none, .dump 0, .next, .next, .set 1 none, .dump 1, .dump 0, .next] =
    [.batch 1, .dump [([97], [[65, 67]])], .error (.io 2), .record [98] [[71]], .batch 1,
      .dump [([99], [[84]])], .dump [([97], [[65, 67]])], .none] := by decide +kernel

example : delivered m5 [.set 0 none, .dump 0, .next, .next, .set 1 none, .dump 1, .dump 0, .next] =
    [([97], [65, 67]), ([98], [71]), ([99], [84])] := by decide +kernel

/-- **sub-sequence, not segment**: a record set read that fails after it has stored record `a`
empties the set; record `a` is never delivered, reading goes on with `b`, `c` (in order).  This is
why the theorems say `Sublist` and cannot say "contiguous". -/
def m4 : MSt := mkMStF inp 4 PolDesc.std.toPol [.data 4, .data 4, .data 2, .fail 3] 0 []

example : runM m4 [.set 0 (some 3), .dump 0, .next, .next, .next] =
    [.error (.io 3), .dump [], .record [98] [[71]], .record [99] [[84]], .none] := by decide +kernel

example : delivered m4 [.set 0 (some 3), .dump 0, .next, .next, .next] =
    [([98], [71]), ([99], [84])] := by decide +kernel

end SeqIo.Fasta.OrderAfterFaultExample
