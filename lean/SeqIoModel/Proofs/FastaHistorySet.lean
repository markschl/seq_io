import SeqIoModel.Proofs.FastaHistoryInv
/-!
# `read_record_set` / `read_record_set_exact` from any reachable state

The loop invariant `LoopInv`: the positions stored so far are the records `k0, k0+1, …` of S,
located in the reader's *current* buffer (while something is stored the buffer is only ever
extended: `is_new = false` makes `resume_incomplete_search` grow instead of shifting).  The loop
is analysed once, for an arbitrary read script; what holds only of a failure-free script hangs on
the assumption `G` of the invariant.
-/
open SeqIo SeqIo.FillProofs SeqIo.Spec

namespace SeqIo.Fasta.Hist

/-! ## `RecordSet.store` -/

theorem store_npos (rs : RecordSet) (bp : BufPos) : (rs.store bp).npos = rs.npos + 1 := rfl

theorem store_buffer (rs : RecordSet) (bp : BufPos) : (rs.store bp).buffer = rs.buffer := rfl

theorem store_len (rs : RecordSet) (bp : BufPos) (h : rs.npos ≤ rs.positions.length) :
    (rs.store bp).npos ≤ (rs.store bp).positions.length := by
  unfold RecordSet.store
  simp only
  split
  · rw [List.length_set]; omega
  · rw [List.length_append, List.length_singleton]; omega

theorem store_get_new (rs : RecordSet) (bp : BufPos) (h : rs.npos ≤ rs.positions.length) :
    (rs.store bp).positions[rs.npos]? = some bp := by
  unfold RecordSet.store
  simp only
  split
  · rename_i hlt
    rw [List.getElem?_set_self hlt]
  · have : rs.npos = rs.positions.length := by omega
    rw [this, List.getElem?_append_right (Nat.le_refl _)]
    simp

theorem store_get_old (rs : RecordSet) (bp : BufPos) (i : Nat) (hi : i < rs.npos)
    (h : rs.npos ≤ rs.positions.length) :
    (rs.store bp).positions[i]? = rs.positions[i]? := by
  unfold RecordSet.store
  simp only
  split
  · rw [List.getElem?_set_ne (by omega)]
  · rw [List.getElem?_append_left (by omega)]

/-! ## the loop invariant -/

/-- the first `npos` stored positions are the records `k0, k0 + 1, …` of S, located in a window
with base `B` and `len` bytes -/
structure Acc (inp : List UInt8) (B len : Nat) (rs : RecordSet) (k0 : Nat) : Prop where
  npos_le : rs.npos ≤ rs.positions.length
  recs : ∀ i, i < rs.npos → ∃ bp rc, rs.positions[i]? = some bp ∧
    (recsOf inp)[k0 + i]? = some rc ∧ RecAt inp B len bp rc.byte

theorem Acc.mono {inp : List UInt8} {B len len' : Nat} {rs : RecordSet} {k0 : Nat}
    (h : Acc inp B len rs k0) (hl : len ≤ len') : Acc inp B len' rs k0 :=
  ⟨h.npos_le, fun i hi => by
    obtain ⟨bp, rc, h1, h2, h3⟩ := h.recs i hi
    exact ⟨bp, rc, h1, h2, h3.mono hl⟩⟩

theorem Acc.empty {inp : List UInt8} {B B' len len' : Nat} {rs : RecordSet} {k0 : Nat}
    (h : Acc inp B len rs k0) (h0 : rs.npos = 0) : Acc inp B' len' rs k0 :=
  ⟨h.npos_le, fun i hi => by omega⟩

theorem Acc.store {inp : List UInt8} {B len : Nat} {rs : RecordSet} {k0 : Nat}
    (h : Acc inp B len rs k0) (bp : BufPos) (rc : FaRec)
    (hrc : (recsOf inp)[k0 + rs.npos]? = some rc) (hat : RecAt inp B len bp rc.byte) :
    Acc inp B len (rs.store bp) k0 := by
  refine ⟨store_len rs bp h.npos_le, ?_⟩
  intro i hi
  rw [store_npos] at hi
  by_cases hlt : i < rs.npos
  · obtain ⟨bp', rc', h1, h2, h3⟩ := h.recs i hlt
    exact ⟨bp', rc', by rw [store_get_old rs bp i hlt h.npos_le]; exact h1, h2, h3⟩
  · have : i = rs.npos := by omega
    subst this
    exact ⟨bp, rc, store_get_new rs bp h.npos_le, hrc, hat⟩

/-- record `k` of S is pending: it starts at `r.byte` (line `r.line`) -/
structure ReadyK (inp : List UInt8) (r : Reader) (k : Nat) : Prop where
  win : WinR inp r
  scan : ScanSt inp r r.byte
  pt : Pt inp k r.byte r.line

theorem ReadyK.withState {inp : List UInt8} {r : Reader} {k : Nat} (h : ReadyK inp r k)
    (st : State) : ReadyK inp { r with state := st } k :=
  ⟨⟨h.win.b, h.win.pol⟩, scanSt_of_br h.scan rfl rfl rfl (Nat.le_refl _), h.pt⟩

theorem readyK_incRec {inp : List UInt8} {r : Reader} {k : Nat} (hw : WinR inp r)
    (hbyte : r.byte = r.bp.start + base r) (hsl : r.bp.start ≤ r.searchPos)
    (hsple : r.searchPos ≤ r.br.buf.length)
    (hp : Pt inp k (r.searchPos + base r) (r.line + r.bp.seqPos.length)) :
    ReadyK inp (incRec r) k := by
  have hb : r.searchPos + base r = (incRec r).byte := by
    show _ = r.byte + (r.searchPos - r.bp.start)
    rw [hbyte, Nat.add_right_comm, Nat.add_sub_of_le hsl]
  exact ⟨⟨hw.b, hw.pol⟩, ScanSt.atStart rfl hb hsple, hb ▸ hp⟩

/-- how the pending record stands: the reader is positioned at it, or a search for it has been
interrupted.  `G` is the assumption that the read script is failure-free (`True` for the
failure-free development, `False` when nothing is assumed): under it an interrupted search has run
through a full buffer up to its last byte, as `search` leaves it -/
def Pending (inp : List UInt8) (G : Prop) (r : Reader) : Prop :=
  (r.state = .positioned ∧ Eof inp r) ∨
  (r.state = .incomplete ∧
    (G → r.br.cap ≤ r.br.buf.length ∧ r.br.buf.length ≤ r.searchPos + 1))

theorem ReadyK.toReady {inp : List UInt8} {G : Prop} {r : Reader} {k : Nat} (h : ReadyK inp r k)
    (hst : Pending inp G r) (hG : G) (hnf : NoFail r.br.src.script) : Ready inp r k := by
  refine ⟨⟨h.win.b.toB hnf, h.win.pol⟩, ?_, h.scan, h.pt, ?_⟩
  · rcases hst with ⟨_, he⟩ | ⟨_, hs⟩
    · exact he
    · exact fun hlt => absurd (hs hG).1 (Nat.not_le.mpr hlt)
  · intro hi
    rcases hst with ⟨h', _⟩ | ⟨_, hs⟩
    · rw [h'] at hi; cases hi
    · exact hs hG

theorem Ready.pending {inp : List UInt8} {r : Reader} {k : Nat} (h : Ready inp r k)
    (hst : r.state = .positioned ∨ r.state = .incomplete) (G : Prop) : Pending inp G r :=
  hst.imp (fun h' => ⟨h', h.eof⟩) (fun h' => ⟨h', fun _ => h.inc h'⟩)

/-- a reader between two iterations of the loop, `k` = index of the pending record; the input is
exhausted only after a record has been stored -/
def LoopRd (inp : List UInt8) (G : Prop) (r : Reader) (k : Nat) (npos : Nat) : Prop :=
  (ReadyK inp r k ∧ Pending inp G r) ∨
  (WinR inp r ∧ Eof inp r ∧ r.state = .finished ∧ r.byte = r.bp.start + base r ∧
    k = (recsOf inp).length ∧ 1 ≤ npos ∧ r.bp.seqPos = [])

structure LoopInv (inp : List UInt8) (G : Prop) (r : Reader) (rs : RecordSet) (k0 : Nat)
    (isNew : Bool) : Prop where
  acc : Acc inp (base r) r.br.buf.length rs k0
  rd : LoopRd inp G r (k0 + rs.npos) rs.npos
  new : r.state = .incomplete → isNew = true → rs.npos = 0
  nofail : G → NoFail r.br.src.script

/-- the result of a record set read that delivers records: records `k0 … k0 + npos - 1` -/
structure SetGood (inp : List UInt8) (r' : Reader) (rs' : RecordSet) (k0 : Nat) (n : Option Nat) :
    Prop where
  acc : Acc inp (base r') r'.br.buf.length rs' k0
  pos : 1 ≤ rs'.npos
  inv : RInv inp r' (k0 + rs'.npos)
  st : r'.state ≠ .new
  exact : ∀ n', n = some n' → rs'.npos = n' ∨ (rs'.npos < n' ∧ k0 + rs'.npos = (recsOf inp).length)
  position : position r' = none ∨
    ∃ rc, (recsOf inp)[k0 + rs'.npos]? = some rc ∧ position r' = some (posOf rc)

/-- the outcomes of the loop entered with `r`, `rs`: the set holds the records `k0 … k0 + npos - 1`
and record `k0 + npos` is pending (with an exact count `n` that had not been reached on entry: it
is reached now, or the input is exhausted); or the call failed, because the policy refused or – not
under `G` – a refill failed: then the set is empty and a record that is not before `k0` is
pending -/
def SetOut (inp : List UInt8) (G : Prop) (k0 : Nat) (n : Option Nat) (r : Reader) (rs : RecordSet)
    (r' : Reader) (rs' : RecordSet) (res : Res Bool) : Prop :=
  (res = .ok true ∧ Acc inp (base r') r'.br.buf.length rs' k0 ∧
    LoopRd inp G r' (k0 + rs'.npos) rs'.npos ∧ 1 ≤ rs'.npos ∧
    ((∀ n', n = some n' → rs.npos < n') → ∀ n', n = some n' →
      rs'.npos = n' ∨ (rs'.npos < n' ∧ k0 + rs'.npos = (recsOf inp).length))) ∨
  (rs'.npos = 0 ∧
    (∃ k', k0 ≤ k' ∧ ReadyK inp r' k' ∧ Pending inp G r' ∧ r'.state = .incomplete) ∧
    ((res = .err .bufferLimit ∧ ¬ PolGrows r.pol) ∨ ∃ e, res = .err (.io e) ∧ ¬ G))

theorem SetOut.from {inp : List UInt8} {G : Prop} {k0 : Nat} {n : Option Nat} {r0 r r' : Reader}
    {rs0 rs rs' : RecordSet} {res : Res Bool} (h : SetOut inp G k0 n r rs r' rs' res)
    (hpf : r.pol.f = r0.pol.f)
    (hlim : (∀ n', n = some n' → rs0.npos < n') → ∀ n', n = some n' → rs.npos < n') :
    SetOut inp G k0 n r0 rs0 r' rs' res := by
  rcases h with ⟨h1, h2, h3, h4, h5⟩ | ⟨h1, h2, h3⟩
  · exact Or.inl ⟨h1, h2, h3, h4, fun hl => h5 (hlim hl)⟩
  · exact Or.inr ⟨h1, h2, h3.imp_left fun ⟨hr, hg⟩ => ⟨hr, fun hg0 => hg (polGrows_congr hpf hg0)⟩⟩

/-- termination measure of the loop.  Storing a record advances the absolute search position (worth
2 per byte, `mu_store`); a search that exhausts the buffer may leave it where it was, but changes
the state from `positioned` (2) to `incomplete` (1) (`mu_incomplete`) -/
def mu (inp : List UInt8) (r : Reader) : Nat :=
  if r.state = .finished then 0
  else 2 * (inp.length - (r.searchPos + base r)) + (if r.state = .incomplete then 1 else 2)

theorem storeStep_eq (n : Option Nat) (r : Reader) (rs : RecordSet) (hle : r.bp.start ≤ r.searchPos) :
    storeStep n r rs = some (incRec r, rs.store r.bp, decide (n = some (rs.store r.bp).npos)) := by
  simp only [storeStep, incrementRecord_eq r hle]

theorem setGood_of_loopRd {inp : List UInt8} {G : Prop} {r : Reader} {rs : RecordSet} {k0 : Nat}
    {n : Option Nat} (hacc : Acc inp (base r) r.br.buf.length rs k0)
    (hrd : LoopRd inp G r (k0 + rs.npos) rs.npos) (hG : G) (hnf : NoFail r.br.src.script)
    (hpos : 1 ≤ rs.npos)
    (hex : ∀ n', n = some n' → rs.npos = n' ∨ (rs.npos < n' ∧ k0 + rs.npos = (recsOf inp).length)) :
    SetGood inp r rs k0 n := by
  rcases hrd with ⟨hr, hst⟩ | ⟨hw, he, hfin, hb, hk, _, hsq⟩
  · have hst' : r.state = .positioned ∨ r.state = .incomplete := hst.imp (·.1) (·.1)
    refine ⟨hacc, hpos, RInv.ready (hr.toReady hst hG hnf) hst', ?_, hex, ?_⟩
    · rcases hst' with h | h <;> rw [h] <;> nofun
    · obtain ⟨rc, hk, hb, hl, _⟩ := pt_step hr.pt
      unfold position
      split
      · exact Or.inl rfl
      · exact Or.inr ⟨rc, hk, by rw [posOf, hb, hl]⟩
  · refine ⟨hacc, hpos, RInv.finished ⟨⟨hw.b.toB hnf, hw.pol⟩, he, hfin, hb⟩ hk,
      (by rw [hfin]; nofun), hex, Or.inl ?_⟩
    unfold position
    rw [hsq]
    rfl

theorem mu_pos {inp : List UInt8} {r : Reader} (h : r.state ≠ .finished) : 1 ≤ mu inp r := by
  unfold mu
  rw [if_neg h]
  split <;> omega

theorem mu_le (inp : List UInt8) (r : Reader) : mu inp r ≤ 2 * inp.length + 2 := by
  unfold mu
  split
  · omega
  · split <;> omega

theorem abs_le {inp : List UInt8} {r : Reader} (hw : WinR inp r) (hsp : r.searchPos ≤ r.br.buf.length) :
    r.searchPos + base r ≤ inp.length := by
  have := hw.b.base_add
  have := hw.b.cur_le
  unfold base
  omega

theorem found_advance {inp : List UInt8} {r : Reader} {s : Nat} (hs : ScanSt inp r s)
    (hf : (scan (inp.drop s) s []).1 = true) :
    r.searchPos + base r < (scan (inp.drop s) s []).2.1 := by
  have := scan_found_lt (inp.drop (r.searchPos + base r)) (r.searchPos + base r)
    (r.bp.seqPos.map (· + base r)) (by rw [hs.resum]; exact hf)
  rw [hs.resum] at this
  exact this

theorem mu_after {inp : List UInt8} {r r3 : Reader} (hnf : r.state ≠ .finished) (hw3 : WinR inp r3)
    (hadv : r3.state ≠ .finished → r3.searchPos ≤ r3.br.buf.length ∧
      r.searchPos + base r < r3.searchPos + base r3) :
    mu inp r3 < mu inp r := by
  by_cases h3 : r3.state = .finished
  · rw [mu, if_pos h3]
    exact mu_pos hnf
  · obtain ⟨hsp3, hlt⟩ := hadv h3
    have := abs_le hw3 hsp3
    unfold mu
    rw [if_neg h3, if_neg hnf]
    have hc3 : (if r3.state = .incomplete then 1 else 2) ≤ 2 := by split <;> decide
    have hc : 1 ≤ (if r.state = .incomplete then 1 else 2) := by split <;> decide
    omega

theorem mu_incomplete {inp : List UInt8} {r r1 : Reader} (hnf : r.state ≠ .finished)
    (hni : r.state ≠ .incomplete) (hst1 : r1.state = .incomplete) (hw1 : WinR inp r1)
    (hsp1 : r1.searchPos ≤ r1.br.buf.length)
    (hle : r.searchPos + base r ≤ r1.searchPos + base r1) : mu inp r1 < mu inp r := by
  have := abs_le hw1 hsp1
  unfold mu
  rw [if_neg hnf, if_neg (by rw [hst1]; intro h; cases h), if_pos hst1, if_neg hni]
  omega

theorem mu_store {inp : List UInt8} {r r2 : Reader} {s : Nat} (hs : ScanSt inp r s)
    (hnf : r.state ≠ .finished) (hw2 : WinR inp r2) (hd : RecDone inp r2 s) :
    mu inp (incRec r2) < mu inp r := by
  refine mu_after hnf ⟨hw2.b, hw2.pol⟩ fun h3 => ?_
  rcases hd.cases with ⟨hf, -, h1, -, hsp⟩ | ⟨-, hfin⟩
  · refine ⟨hsp, ?_⟩
    show _ < r2.searchPos + base r2
    rw [← h1]
    exact found_advance hs hf
  · exact absurd hfin h3

theorem after_store {inp : List UInt8} {G : Prop} {fuel f : Nat} {n : Option Nat} {isNew : Bool}
    {k0 : Nat}
    (ih : ∀ (r : Reader) (rs : RecordSet), LoopInv inp G r rs k0 isNew → mu inp r < f →
      ∃ r' rs' res, setLoop f fuel n isNew r rs = (r', rs', res) ∧ Frame r r' ∧
        (G → NoFail r'.br.src.script) ∧ SetOut inp G k0 n r rs r' rs' res)
    {r2 : Reader} {rs : RecordSet} {s ln : Nat}
    (hacc : Acc inp (base r2) r2.br.buf.length rs k0) (hw : WinR inp r2) (he : Eof inp r2)
    (hd : RecDone inp r2 s) (hp : Pt inp (k0 + rs.npos) s ln) (hb : r2.byte = s) (hl : r2.line = ln)
    (hst : r2.state = .positioned ∨ r2.state = .finished) (hsl : r2.bp.start ≤ r2.searchPos)
    (hnf : G → NoFail r2.br.src.script) (hmu : mu inp (incRec r2) < f) :
    ∃ r' rs' res, Fault.storeK f fuel n isNew r2 rs = (r', rs', res) ∧ Frame r2 r' ∧
      (G → NoFail r'.br.src.script) ∧ SetOut inp G k0 n r2 rs r' rs' res := by
  subst hb hl
  obtain ⟨rc, hk, hby, -, -, -, -, hcase⟩ := recDone_pt hw.b hd hp
  have hacc' : Acc inp (base (incRec r2)) (incRec r2).br.buf.length (rs.store r2.bp) k0 :=
    hacc.store r2.bp rc hk (by rw [hby]; exact recAt_of_recDone hd)
  have hrd' : LoopRd inp G (incRec r2) (k0 + (rs.store r2.bp).npos) (rs.store r2.bp).npos := by
    rw [store_npos, ← Nat.add_assoc]
    rcases hcase with ⟨hnf2, -, hsple, hp1⟩ | ⟨hfin, hlen⟩
    · exact Or.inl ⟨readyK_incRec hw hd.start_eq.symm hsl hsple hp1,
        Or.inl ⟨hst.resolve_right hnf2, he⟩⟩
    · refine Or.inr ⟨⟨hw.b, hw.pol⟩, he, hfin, ?_, hlen, Nat.le_add_left _ _, rfl⟩
      show r2.byte + (r2.searchPos - r2.bp.start) = r2.searchPos + base r2
      rw [← hd.start_eq, Nat.add_right_comm, Nat.add_sub_of_le hsl]
  rw [Fault.storeK, storeStep_eq n r2 rs hsl]
  by_cases hn : n = some (rs.store r2.bp).npos
  · rw [decide_eq_true hn]
    exact ⟨_, _, _, rfl, ⟨rfl, rfl⟩, hnf, Or.inl ⟨rfl, hacc', hrd', Nat.le_add_left _ _,
      fun _ n' hn' => Or.inl (Option.some.inj (hn.symm.trans hn'))⟩⟩
  · rw [decide_eq_false hn]
    have hst3 : (incRec r2).state ≠ .incomplete := by
      show r2.state ≠ .incomplete
      rcases hst with h | h <;> rw [h] <;> nofun
    obtain ⟨r', rs', res, hloop, hfr, hnf', hout⟩ :=
      ih _ _ ⟨hacc', hrd', fun h => absurd h hst3, hnf⟩ hmu
    refine ⟨r', rs', res, hloop, ⟨hfr.polf, hfr.seekFails⟩, hnf', hout.from rfl fun hlim n' hn' => ?_⟩
    exact Nat.lt_of_le_of_ne (hlim n' hn') fun h => hn (hn'.trans (congrArg some h.symm))

theorem setLoop_spec {inp : List UInt8} {G : Prop} {fuel : Nat} {n : Option Nat} {k0 : Nat}
    (hfuel : inp.length < fuel) :
    ∀ (f : Nat) (isNew : Bool) (r : Reader) (rs : RecordSet), LoopInv inp G r rs k0 isNew →
      mu inp r < f →
      ∃ r' rs' res, setLoop f fuel n isNew r rs = (r', rs', res) ∧ Frame r r' ∧
        (G → NoFail r'.br.src.script) ∧ SetOut inp G k0 n r rs r' rs' res := by
  intro f
  induction f with
  | zero => intro _ _ _ _ h; exact absurd h (Nat.not_lt_zero _)
  | succ f ih =>
    intro isNew r rs hinv hmu
    rw [Fault.setLoop_eq]
    rcases hinv.rd with ⟨hr, hst⟩ | ⟨hw, he, hfin, hb, hk, hpos, hsq⟩
    · have hnf : r.state ≠ .finished := by
        rcases hst with ⟨h, _⟩ | ⟨h, _⟩ <;> rw [h] <;> nofun
      rw [if_neg hnf]
      have hpt := hr.pt
      have hmu' : mu inp r ≤ f := Nat.le_of_lt_succ hmu
      rcases hst with ⟨hst, he⟩ | ⟨hst, hfull⟩
      · -- state `positioned`: search in the buffer
        have hni : r.state ≠ .incomplete := by rw [hst]; nofun
        rw [if_neg hni]
        obtain ⟨r1, fnd, hsearch, hmono, hbr1, hpol1, -, hl1, hb1, hstart1, htrue, hfalse⟩ :=
          search_spec hr.win.b he hr.scan hnf
        have hw1 : WinR inp r1 := ⟨by rw [hbr1]; exact hr.win.b, by rw [hpol1]; exact hr.win.pol⟩
        have he1 : Eof inp r1 := by unfold Eof; rw [hbr1]; exact he
        have hfr1 : Frame r r1 := ⟨by rw [hpol1], by rw [hbr1]⟩
        have hnf1 : G → NoFail r1.br.src.script := by rw [hbr1]; exact hinv.nofail
        have hbase1 : base r1 = base r := by unfold base; rw [hbr1]
        have hacc1 : Acc inp (base r1) r1.br.buf.length rs k0 := by
          rw [hbase1, hbr1]; exact hinv.acc
        rw [hsearch]
        cases fnd with
        | true =>
          obtain ⟨hdone, hstate⟩ := htrue rfl
          obtain ⟨r', rs', res, hres, hfr', hnf', hout⟩ := after_store (ih isNew) hacc1 hw1 he1
            hdone hpt hb1 hl1 (hstate.imp (fun h => h.trans hst) id)
            (by rw [hstart1]; exact Nat.le_trans hr.scan.start_le hmono) hnf1
            (Nat.lt_of_lt_of_le (mu_store hr.scan hnf hw1 hdone) hmu')
          exact ⟨r', rs', res, hres, hfr1.trans hfr', hnf', hout.from (by rw [hpol1]) id⟩
        | false =>
          obtain ⟨hs1, hst1, hfull1, hnear1⟩ := hfalse rfl
          have hmu1 : mu inp r1 < f :=
            Nat.lt_of_lt_of_le (mu_incomplete hnf hni hst1 hw1 hs1.sp_le
              (by rw [hbase1]; exact Nat.add_le_add_right hmono _)) hmu'
          have hrd1 : LoopRd inp G r1 (k0 + rs.npos) rs.npos :=
            Or.inl ⟨⟨hw1, by rw [hb1]; exact hs1, by rw [hb1, hl1]; exact hpt⟩, Or.inr ⟨hst1, fun _ =>
              ⟨by rw [hbr1]; exact hfull1, by rw [hbr1]; exact hnear1⟩⟩⟩
          have hrec : ∀ isNew', (r1.state = .incomplete → isNew' = true → rs.npos = 0) →
              ∃ r' rs' res, setLoop f fuel n isNew' r1 rs = (r', rs', res) ∧ Frame r r' ∧
                (G → NoFail r'.br.src.script) ∧ SetOut inp G k0 n r rs r' rs' res := by
            intro isNew' hnew
            obtain ⟨r', rs', res, hres, hfr', hnf', hout⟩ :=
              ih isNew' r1 rs ⟨hacc1, hrd1, hnew, hnf1⟩ hmu1
            exact ⟨r', rs', res, hres, hfr1.trans hfr', hnf', hout.from (by rw [hpol1]) id⟩
          simp only [Fault.afterMiss]
          by_cases h0 : rs.npos = 0
          · rw [if_pos h0]
            exact hrec isNew fun _ _ => h0
          · rw [if_neg h0]
            cases hn : n with
            | some n' =>
              simp only
              by_cases hlt : rs.npos < n'
              · rw [if_pos hlt, ← hn]
                exact hrec false fun _ h => by cases h
              · rw [if_neg hlt]
                exact ⟨r1, rs, .ok true, rfl, hfr1, hnf1, Or.inl ⟨rfl, hacc1, hrd1,
                  Nat.pos_of_ne_zero h0, fun hl => absurd (hl n' rfl) hlt⟩⟩
            | none =>
              exact ⟨r1, rs, .ok true, rfl, hfr1, hnf1, Or.inl ⟨rfl, hacc1, hrd1,
                Nat.pos_of_ne_zero h0, fun _ _ h => by cases h⟩⟩
      · -- state `incomplete`: resume the search, refilling the buffer
        rw [if_pos hst]
        obtain ⟨r1, res1, new, hres1, hk1, hw1, hnfs, hF, hcase⟩ :=
          resume_gen isNew fuel r r.byte hr.win hr.scan hst
            (Nat.lt_of_le_of_lt (Nat.sub_le _ _) hfuel)
        rw [hres1]
        have hnf1 : G → NoFail r1.br.src.script := fun hG => hnfs (hinv.nofail hG)
        have hacc1 : Acc inp (base r1) r1.br.buf.length rs k0 := by
          cases hnew : isNew with
          | true => exact hinv.acc.empty (hinv.new hst hnew)
          | false =>
            obtain ⟨h1, h2⟩ := hk1.ext hnew
            rw [h1]
            exact hinv.acc.mono h2
        rcases hcase with ⟨rfl, -, he1, hd1, hst1 | hst1, hsl1⟩ | ⟨hs1, hst1, hfail⟩
        · have hnf1' : r1.state ≠ .finished := by rw [hst1]; nofun
          simp only
          rw [if_pos hnf1']
          have hd2 := recDone_state hd1 hnf1' .positioned (by nofun)
          obtain ⟨r', rs', res, hres, hfr', hnf', hout⟩ :=
            after_store (r2 := { r1 with state := .positioned }) (ih isNew) hacc1 ⟨hw1.b, hw1.pol⟩ he1
              hd2 hpt hk1.byte hk1.line (Or.inl rfl) hsl1 hnf1
              (Nat.lt_of_lt_of_le (mu_store hr.scan hnf ⟨hw1.b, hw1.pol⟩ hd2) hmu')
          exact ⟨r', rs', res, hres, hk1.toFrame.trans ⟨hfr'.polf, hfr'.seekFails⟩, hnf',
            hout.from hk1.polf id⟩
        · simp only
          rw [if_neg (fun h => h hst1)]
          obtain ⟨r', rs', res, hres, hfr', hnf', hout⟩ :=
            after_store (ih isNew) hacc1 hw1 he1 hd1 hpt hk1.byte hk1.line (Or.inr hst1) hsl1 hnf1
              (Nat.lt_of_lt_of_le (mu_store hr.scan hnf hw1 hd1) hmu')
          exact ⟨r', rs', res, hres, hk1.toFrame.trans hfr', hnf', hout.from hk1.polf id⟩
        · refine ⟨r1, { rs with npos := 0 }, res1, ?_, hk1.toFrame, hnf1, Or.inr ⟨rfl,
            ⟨k0 + rs.npos, Nat.le_add_right _ _,
              ⟨hw1, by rw [hk1.byte]; exact hs1, by rw [hk1.byte, hk1.line]; exact hpt⟩,
              Or.inr ⟨hst1, fun hG => ?_⟩, hst1⟩, ?_⟩⟩
          · rcases hfail with ⟨rfl, -⟩ | ⟨e, rfl, -⟩ <;> rfl
          · rcases hfail with href | ⟨e, -, hnf0⟩
            · exact (hF (hfull hG).1 (hfull hG).2).2.2 href.1
            · exact absurd (hinv.nofail hG) hnf0
          · rcases hfail with href | ⟨e, rfl, hnf0⟩
            · exact Or.inl ⟨href.1, href.not_grows⟩
            · exact Or.inr ⟨e, rfl, fun hG => hnf0 (hinv.nofail hG)⟩
    · rw [if_pos hfin]
      exact ⟨r, rs, .ok true, rfl, Frame.refl r, hinv.nofail, Or.inl ⟨rfl, hinv.acc, hinv.rd, hpos,
        fun hl n' hn' => Or.inr ⟨hl n' hn', hk⟩⟩⟩

/-! ## the whole call -/

/-- one `read_record_set[_exact]` call from any reachable state -/
theorem readSet_rinv {inp : List UInt8} {r : Reader} {k fuel : Nat} (h : RInv inp r k)
    (hfuel : 2 * inp.length + 2 < fuel) (rs : RecordSet) (n : Option Nat) (hn : n ≠ some 0) :
    ∃ r' rs' res, readRecordSetExact fuel r rs n = (r', rs', res) ∧ Frame r r' ∧
      ((res = .ok true ∧ rs'.buffer = r'.br.buf ∧ SetGood inp r' rs' k n ∧
          (r.state = .new → (items inp).err = none)) ∨
       (res = .ok false ∧ rs' = rs ∧ k = (recsOf inp).length ∧ Fin inp r' ∧
          (r.state = .new → (items inp).err = none)) ∨
       (∃ ln c, res = .err (.invalidStart ln c) ∧ rs' = rs ∧ r.state = .new ∧ Fin inp r' ∧
          recsOf inp = [] ∧ (items inp).err = some (.invalidStart ln c)) ∨
       (res = .err .bufferLimit ∧ ¬ PolGrows r.pol ∧ rs'.npos = 0 ∧
          (r.state = .new → (items inp).err = none) ∧
          ∃ k', RInv inp r' k' ∧ r'.state ≠ .new)) := by
  have hfuel1 : inp.length < fuel := by omega
  obtain ⟨r0, res0, hent, hfr0, hcase⟩ := enter_rinv h hfuel1 .positioned (by intro h; cases h)
  rw [readSet_enter, hent]
  rcases hcase with ⟨rfl, hr0, hst0, herr⟩ | ⟨rfl, rest⟩ | ⟨ln, c, rfl, rest⟩
  · have hlim : ∀ n', n = some n' → 0 < n' := by
      intro n' hn'
      cases n' with
      | zero => exact absurd hn' hn
      | succ m => exact Nat.succ_pos m
    have hinv : LoopInv inp True r0 { rs with npos := 0 } k true :=
      ⟨⟨Nat.zero_le _, fun i hi => absurd hi (Nat.not_lt_zero _)⟩,
        Or.inl ⟨⟨.ofWin hr0.win, hr0.scan, hr0.pt⟩, hr0.pending hst0 True⟩, fun _ _ => rfl,
        fun _ => hr0.win.b.nofail⟩
    obtain ⟨r', rs', res, hres, hfr, hnf', hout⟩ :=
      setLoop_spec (n := n) hfuel1 fuel true r0 _ hinv (Nat.lt_of_le_of_lt (mu_le inp r0) hfuel)
    simp only [Fault.setPost, hres]
    rcases hout with ⟨rfl, hacc, hrd, hpos, hex⟩ |
      ⟨h0, ⟨k', -, hr', hp', hst'⟩, ⟨rfl, hng⟩ | ⟨e, -, hG⟩⟩
    · have hg := setGood_of_loopRd (n := n) hacc hrd trivial (hnf' trivial) hpos (hex hlim)
      exact ⟨r', { rs' with buffer := r'.br.buf }, .ok true, rfl, hfr0.trans hfr, Or.inl ⟨rfl, rfl,
        ⟨⟨hg.acc.npos_le, hg.acc.recs⟩, hg.pos, hg.inv, hg.st, hg.exact, hg.position⟩, herr⟩⟩
    · exact ⟨r', rs', _, rfl, hfr0.trans hfr, Or.inr (Or.inr (Or.inr ⟨rfl,
        fun hg => hng (polGrows_congr hfr0.polf hg), h0, herr, k',
        RInv.ready (hr'.toReady hp' trivial (hnf' trivial)) (Or.inr hst'), by rw [hst']; nofun⟩))⟩
    · exact absurd trivial hG
  · exact ⟨r0, rs, _, rfl, hfr0, Or.inr (Or.inl ⟨rfl, rfl, rest⟩)⟩
  · exact ⟨r0, rs, _, rfl, hfr0, Or.inr (Or.inr (Or.inl ⟨ln, c, rfl, rfl, rest⟩))⟩

/-! ## what iterating over a filled set shows -/

def SetOk (inp : List UInt8) (rs : RecordSet) (lo len : Nat) : Prop :=
  obsDump rs = .dump ((((recsOf inp).drop lo).take len).map view)

theorem setOk_of_acc {inp : List UInt8} {r : Reader} {rs : RecordSet} {k0 : Nat} (hw : WinR inp r)
    (hacc : Acc inp (base r) r.br.buf.length rs k0) (hbuf : rs.buffer = r.br.buf) :
    SetOk inp rs k0 rs.npos := by
  have hl : (rs.positions.take rs.npos).map (viewRec rs.buffer) =
      ((((recsOf inp).drop k0).take rs.npos).map view).map some := by
    apply List.ext_getElem?
    intro i
    simp only [List.getElem?_map, List.getElem?_take, List.getElem?_drop]
    by_cases hi : i < rs.npos
    · obtain ⟨bp, rc, h1, h2, h3⟩ := hacc.recs i hi
      obtain ⟨rc', hk', _, _, hH, hSL, _⟩ :=
        view_of_recAt hw.b.base_le hw.b.win h3 (pt_all inp (k0 + i) rc h2)
      rw [h2] at hk'
      cases hk'
      simp only [hi, if_true, h1, h2, Option.map_some, hbuf, viewRec_of hH hSL]
    · simp only [hi, if_false, Option.map_none]
  unfold SetOk obsDump
  rw [hl, allSome_map_some]

end SeqIo.Fasta.Hist
