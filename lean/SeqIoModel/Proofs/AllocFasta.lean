import SeqIoModel.Proofs.Alloc
import SeqIoModel.Proofs.EndToEnd
import SeqIoModel.Proofs.FastaUnchanged
import SeqIoModel.Proofs.FastaOps
import SeqIoModel.Proofs.FastaStreamInv
/-!
# The post-hoc ghost step of the FASTA reader is justified by the machine M, and the steady state of
`next()` allocates nothing (C18)

Within one call of M (`Model/Fasta.lean`) the offset vector `seq_pos` is only ever appended to (`scan`,
`search`), shifted in place (`makeRoom`) or left alone (`grow`, `fillBuf`, `init`); only
`incrementRecord`, at the very start of a call in state `.parsing`, clears it.  So its length after the
call is the largest it had since that clear, which is what `Alloc.Fa.readerStep` feeds to the ghost
capacity.  This is composed with `fasta_next_stream` (M returns S's stream) and the ghost history of
`Proofs/Alloc.lean` (`runNextSteps_getElem?`).
-/

namespace SeqIo.Alloc.Fa
open SeqIo SeqIo.Fasta SeqIo.FillProofs

/-! ## `seq_pos` only grows after the clear -/

theorem scan_acc_prefix : ∀ (rest : List UInt8) (i : Nat) (acc : List Nat),
    ∃ l, (Fasta.scan rest i acc).2.2 = acc ++ l :=
  fun rest i acc => ⟨_, congrArg (·.2.2) (Fasta.scan_acc rest i acc)⟩

theorem scan_acc_length_le (rest : List UInt8) (i : Nat) (acc : List Nat) :
    acc.length ≤ (Fasta.scan rest i acc).2.2.length := by
  obtain ⟨l, hl⟩ := scan_acc_prefix rest i acc
  rw [hl, List.length_append]
  omega

theorem search__seqPos_mono {r r' : Reader} {b : Bool} (h : Fasta.search_ r = some (r', b)) :
    r.bp.seqPos.length ≤ r'.bp.seqPos.length := by
  unfold Fasta.search_ at h
  split at h <;> cases h
  exact scan_acc_length_le _ _ _

theorem search_seqPos_mono {r r' : Reader} {b : Bool} (h : Fasta.search r = some (r', b)) :
    r.bp.seqPos.length ≤ r'.bp.seqPos.length := by
  unfold Fasta.search at h
  split at h
  · cases h
  · cases h
    exact search__seqPos_mono ‹_›
  · have := search__seqPos_mono ‹_›
    split at h <;> cases h
    · simp only [List.length_append]; omega
    · exact this

theorem mapSub_length (c : Nat) : ∀ (l l' : List Nat), Fasta.mapSub c l = some l' → l'.length = l.length
  | [], _, h => by cases h; rfl
  | x :: xs, _, h => by
    unfold Fasta.mapSub at h
    split at h <;> cases h
    simp [mapSub_length c xs _ ‹_›]

theorem makeRoom_seqPos_length {r r' : Reader} (h : Fasta.makeRoom r = some r') :
    r'.bp.seqPos.length = r.bp.seqPos.length := by
  obtain ⟨_, _, hm, rfl⟩ := Hist.makeRoom_some h
  exact mapSub_length _ _ _ hm

theorem grow_bp (r : Reader) : (Fasta.grow r).1.bp = r.bp := by
  unfold Fasta.grow
  simp only
  split
  · rfl
  · split <;> rfl

theorem step1_seqPos (mk : Bool) (r : Reader) :
    (Hist.step1 mk r).1.bp.seqPos.length = r.bp.seqPos.length := by
  unfold Hist.step1
  split
  · rw [grow_bp]
  · split
    · exact makeRoom_seqPos_length ‹_›
    · rfl

theorem resume_seqPos_mono (mk : Bool) : ∀ (f : Nat) (r : Reader),
    r.bp.seqPos.length ≤ (Fasta.resume f mk r).1.bp.seqPos.length
  | 0, _ => Nat.le_refl _
  | f + 1, r => by
    have h1 := step1_seqPos mk r
    rw [Hist.resume_unfold]
    generalize Hist.step1 mk r = x at h1 ⊢
    obtain ⟨r1, res1⟩ := x
    -- every way out but the search after the refill returns the reader of the first step
    cases res1 with
    | ok u =>
      simp only
      rcases fillBuf r1.br with ⟨br, _ | _⟩
      · exact Nat.le_of_eq h1.symm
      · simp only
        cases hs : Fasta.search { r1 with br := br } with
        | none => exact Nat.le_of_eq h1.symm
        | some q =>
          obtain ⟨r2, fnd⟩ := q
          have h2 := search_seqPos_mono hs
          replace h2 : r.bp.seqPos.length ≤ r2.bp.seqPos.length := Nat.le_trans (Nat.le_of_eq h1.symm) h2
          cases fnd with
          | true => exact h2
          | false => exact Nat.le_trans h2 (resume_seqPos_mono mk f r2)
    | _ => exact Nat.le_of_eq h1.symm

theorem nextTail_seqPos_mono (fuel : Nat) (r1 : Reader) :
    r1.bp.seqPos.length ≤ (Fault.nextTail fuel r1).1.bp.seqPos.length := by
  unfold Fault.nextTail
  split
  · have h := resume_seqPos_mono true fuel r1
    generalize Fasta.resume fuel true r1 = x at h ⊢
    split
    · split <;> exact h
    · exact h
  · exact Nat.le_refl _

theorem nextCont_seqPos_mono (fuel : Nat) (r : Reader) :
    r.bp.seqPos.length ≤ (Fasta.nextCont fuel r).1.bp.seqPos.length := by
  by_cases h : r.state = .incomplete
  · rw [Fault.nextCont_of_incomplete h]
    exact nextTail_seqPos_mono fuel r
  · rw [Fault.nextCont_of_search h]
    split
    · exact Nat.le_refl _
    · exact Nat.le_trans (search_seqPos_mono ‹_›) (nextTail_seqPos_mono fuel _)

theorem next_seqPos_mono_of_not_parsing (fuel : Nat) (r : Reader) (h : r.state ≠ .parsing) :
    r.bp.seqPos.length ≤ (Fasta.next fuel r).1.bp.seqPos.length := by
  unfold Fasta.next
  split
  · -- `.new`: `init` leaves the vector alone
    have hi := (Hist.init_frame fuel r).2
    split
    · rename_i r2 heq
      rw [heq] at hi
      exact hi ▸ nextCont_seqPos_mono fuel { r2 with state := .parsing }
    · rename_i heq
      rw [heq] at hi
      exact Nat.le_of_eq (congrArg List.length hi.symm)
  · exact nextCont_seqPos_mono fuel { r with state := .parsing }
  · exact Nat.le_refl _
  · exact absurd ‹_› h
  · exact nextCont_seqPos_mono fuel r

/-- state `.parsing`: the vector is cleared first (`increment_record`), the rest of the call is `nextCont`
on the cleared reader, which only lets it grow (`nextCont_seqPos_mono`); if `increment_record` panics
nothing is changed -/
theorem next_parsing_clear (fuel : Nat) (r : Reader) (h : r.state = .parsing) :
    (∃ r0, Fasta.incrementRecord r = some r0 ∧ r0.bp.seqPos = [] ∧
        Fasta.next fuel r = Fasta.nextCont fuel r0 ∧
        r0.bp.seqPos.length ≤ (Fasta.next fuel r).1.bp.seqPos.length) ∨
    (Fasta.incrementRecord r = none ∧ (Fasta.next fuel r).1 = r) := by
  unfold Fasta.next
  rw [h]
  simp only
  cases hi : Fasta.incrementRecord r with
  | none => exact Or.inr ⟨rfl, rfl⟩
  | some r0 =>
    obtain ⟨_, rfl⟩ := Hist.incrementRecord_some hi
    exact Or.inl ⟨_, rfl, rfl, rfl, nextCont_seqPos_mono fuel _⟩

theorem next_seqPos_after_clear (fuel : Nat) (r : Reader) :
    ((r.state = .incomplete ∨ r.state = .positioned) →
        r.bp.seqPos.length ≤ (Fasta.next fuel r).1.bp.seqPos.length) ∧
    (r.state = .finished → (Fasta.next fuel r).1 = r) := by
  constructor
  · intro h
    apply next_seqPos_mono_of_not_parsing
    rcases h with h | h <;> rw [h] <;> decide
  · intro h
    unfold Fasta.next
    rw [h]

/-! ### record sets never lose position slots -/

theorem storeStep_positions_length {n : Option Nat} {r r' : Reader} {rs rs' : RecordSet} {b : Bool}
    (h : Fasta.storeStep n r rs = some (r', rs', b)) : rs.positions.length ≤ rs'.positions.length := by
  obtain ⟨_, rfl, _⟩ := Hist.storeStep_some h
  unfold RecordSet.store
  split <;> simp

theorem setLoop_positions_length (fuel : Nat) (n : Option Nat) : ∀ (f : Nat) (isNew : Bool) (r : Reader)
    (rs : RecordSet), rs.positions.length ≤ (Fasta.setLoop f fuel n isNew r rs).2.1.positions.length
  | 0, _, _, _ => Nat.le_refl _
  | f + 1, isNew, r, rs => by
    have hstore : ∀ r1 : Reader,
        rs.positions.length ≤ (Fault.storeK f fuel n isNew r1 rs).2.1.positions.length := by
      intro r1
      unfold Fault.storeK
      split
      · exact Nat.le_refl _
      · exact storeStep_positions_length ‹_›
      · exact Nat.le_trans (storeStep_positions_length ‹_›) (setLoop_positions_length fuel n f _ _ _)
    rw [Fault.setLoop_eq]
    -- the loop is left with the set as it is, goes round with the set as it is, or stores a record first
    split
    · exact Nat.le_refl _
    split
    · split
      · exact hstore _
      all_goals exact Nat.le_refl _
    · split
      · exact Nat.le_refl _
      · unfold Fault.afterMiss
        split
        · exact setLoop_positions_length fuel n f _ _ _
        · split
          · split
            · exact setLoop_positions_length fuel _ f _ _ _
            · exact Nat.le_refl _
          · exact Nat.le_refl _
      · exact hstore _

theorem readRecordSetExact_positions_length (fuel : Nat) (r : Reader) (rs : RecordSet) (n : Option Nat) :
    rs.positions.length ≤ (Fasta.readRecordSetExact fuel r rs n).2.1.positions.length := by
  rw [readSet_enter]
  unfold Fault.setPost
  split
  · rename_i r1 _
    have h := setLoop_positions_length fuel n fuel true r1 { rs with npos := 0 }
    split
    · rename_i heq
      rw [heq] at h
      exact h
    · exact h
  all_goals exact Nat.le_refl _

/-! ## end to end: the steady state of `next()` allocates nothing -/

def runStates : Nat → Fasta.Reader → List Fasta.Reader
  | 0, _ => []
  | k + 1, r =>
    let r' := (Fasta.next (opFuel r.br.src.inp.length r.br.src.script.length) r).1
    r' :: runStates k r'

def runResults : Nat → Fasta.Reader → List (Fasta.Res Bool)
  | 0, _ => []
  | k + 1, r =>
    let p := Fasta.next (opFuel r.br.src.inp.length r.br.src.script.length) r
    p.2 :: runResults k p.1

theorem runStates_length : ∀ (k : Nat) (r : Reader), (runStates k r).length = k
  | 0, _ => rfl
  | k + 1, r => by simp [runStates, runStates_length k]

theorem runResults_length : ∀ (k : Nat) (r : Reader), (runResults k r).length = k
  | 0, _ => rfl
  | k + 1, r => by simp [runResults, runResults_length k]

theorem runNexts_eq_zipWith : ∀ (k : Nat) (r : Reader),
    Fasta.runNexts k r = List.zipWith Fasta.observe (runStates k r) (runResults k r)
  | 0, _ => rfl
  | k + 1, r => by
    simp only [Fasta.runNexts, runStates, runResults, List.zipWith_cons_cons]
    rw [runNexts_eq_zipWith k]

/-- a call that shows a record with the sequence lines `ls` left `ls.length + 1` offsets in `seq_pos` -/
theorem observe_record_seqPos {q : Reader} {res : Fasta.Res Bool} {h : List UInt8} {ls : List (List UInt8)}
    {l b : Nat} (ho : Fasta.observe q res = .record h ls l b) : q.bp.seqPos.length = ls.length + 1 := by
  unfold Fasta.observe at ho
  repeat' split at ho
  all_goals cases ho
  rename_i hh hl _
  have h1 := Fasta.Unch.allSome_length _ _ hl
  rw [Fasta.Unch.length_seqLines] at h1
  cases hq : q.bp.seqPos
  · simp [Fasta.head, hq] at hh
  · rw [hq] at h1; simp at h1 ⊢; omega

/-- the ghost part of the headline theorem, for any history of readers: if the reader after call `j` has
no more offsets than the reader after an earlier call `i`, call `j` allocates nothing -/
theorem runNextSteps_steady_at (c : Cap) (L : List Reader) (i j : Nat) (hij : i < j) (qi qj : Reader)
    (hi : L[i]? = some qi) (hj : L[j]? = some qj)
    (hle : qj.bp.seqPos.length ≤ qi.bp.seqPos.length) :
    (runNextSteps c L).2[j]? = some (some 0) := by
  have hmem : qi ∈ L.take j := List.mem_of_getElem? (i := i) (by rw [List.getElem?_take, if_pos hij, hi])
  rw [runNextSteps_getElem?, hj, Option.map_some,
    readerStep_fits _ _ (Nat.le_trans hle (runNextSteps_lb_ge c _ qi hmem))]

/-- the stream-to-state bridge: if `k` calls show exactly the records `rs` (then end of input), the reader
after call `m < rs.length` holds `rs[m].seqLines.length + 1` offsets -/
theorem runStates_seqPos_of_stream (r0 : Reader) (rs : List Spec.FaRec) (k : Nat)
    (hstream : Fasta.runNexts k r0 =
      (rs.map (fun r => Fasta.Obs.record r.head r.seqLines r.line r.byte) ++ List.replicate k Fasta.Obs.none).take k)
    (m : Nat) (hm : m < rs.length) (hmk : m < k) :
    ∃ q, (runStates k r0)[m]? = some q ∧ q.bp.seqPos.length = (rs[m]'hm).seqLines.length + 1 := by
  have ho : (Fasta.runNexts k r0)[m]? =
      some (Fasta.Obs.record (rs[m]'hm).head (rs[m]'hm).seqLines (rs[m]'hm).line (rs[m]'hm).byte) := by
    rw [hstream, List.getElem?_take, if_pos hmk, List.getElem?_append_left (by simpa using hm),
      List.getElem?_map, List.getElem?_eq_getElem hm]
    rfl
  rw [runNexts_eq_zipWith, List.getElem?_zipWith_eq_some] at ho
  obtain ⟨q, res, hq, -, hobs⟩ := ho
  exact ⟨q, hq, observe_record_seqPos hobs⟩

/-- the headline theorem for any policy for which M returns S's stream -/
theorem fasta_steady_state_no_alloc_of_stream (r0 : Reader) (rs : List Spec.FaRec)
    (hstream : ∀ k, Fasta.runNexts k r0 =
      (rs.map (fun r => Fasta.Obs.record r.head r.seqLines r.line r.byte) ++ List.replicate k Fasta.Obs.none).take k)
    (c : Cap) (i j : Nat) (hij : i < j) (hj : j < rs.length)
    (hle : (rs[j]'hj).seqLines.length ≤ (rs[i]'(by omega)).seqLines.length) :
    (runNextSteps c (runStates (j + 1) r0)).2[j]? = some (some 0) := by
  obtain ⟨qi, hqi, hli⟩ := runStates_seqPos_of_stream r0 rs (j + 1) (hstream _) i (by omega) (by omega)
  obtain ⟨qj, hqj, hlj⟩ := runStates_seqPos_of_stream r0 rs (j + 1) (hstream _) j hj (by omega)
  exact runNextSteps_steady_at c _ i j hij qi qj hqi hqj (by omega)

/-- For every input that S accepts, every capacity ≥ 3, never-refusing policy, read script without
failures and chunking: the `next()` call that returns record `j` performs no allocation in the ghost model
whenever an earlier record `i` had at least as many sequence lines. -/
theorem fasta_steady_state_no_alloc (inp : List UInt8) (rs : List Spec.FaRec) (hrs : Spec.fasta inp = .records rs)
    (cap : Nat) (hcap : 3 ≤ cap) (pol : Pol) (hpol : PolOk pol) (script : List ReadEv) (hs : FillProofs.NoFail script) (chunk : Nat)
    (i j : Nat) (hij : i < j) (hj : j < rs.length)
    (hle : (rs[j]'hj).seqLines.length ≤ (rs[i]'(by omega)).seqLines.length) :
    (Alloc.Fa.runNextSteps { lb := 1 } (runStates (j + 1) (Fasta.mkReader inp cap pol script chunk))).2[j]? = some (some 0) :=
  fasta_steady_state_no_alloc_of_stream _ rs
    (fun k => E2E.fasta_runNexts_of_spec inp rs hrs cap hcap pol hpol script hs chunk k) _ i j hij hj hle

/-- the same for every policy that never refuses a request with a positive capacity (`PolGrows`) -/
theorem fasta_steady_state_no_alloc_polGrows (inp : List UInt8) (rs : List Spec.FaRec) (hrs : Spec.fasta inp = .records rs)
    (cap : Nat) (hcap : 3 ≤ cap) (pol : Pol) (hpol : Fasta.PolGrows pol) (script : List ReadEv) (hs : FillProofs.NoFail script)
    (chunk : Nat) (c : Cap) (i j : Nat) (hij : i < j) (hj : j < rs.length)
    (hle : (rs[j]'hj).seqLines.length ≤ (rs[i]'(by omega)).seqLines.length) :
    (Alloc.Fa.runNextSteps c (runStates (j + 1) (Fasta.mkReader inp cap pol script chunk))).2[j]? = some (some 0) :=
  fasta_steady_state_no_alloc_of_stream _ rs
    (fun k => by
      rw [Fasta.fasta_next_stream_polGrows inp cap hcap pol hpol script hs chunk k]
      simp [Fasta.specObs, hrs]) c i j hij hj hle

/-- `PolOk` does not cover the built-in `StdPolicy`: asked with capacity `0` it answers `0` -/
theorem std_not_polOk : ¬ PolOk PolDesc.std.toPol := by
  intro h
  obtain ⟨n, hn, hlt⟩ := h [] 0
  simp [PolDesc.toPol, stdGrow] at hn
  omega

/-- the corollary for the built-in `StdPolicy` (which is not `PolOk`, see `std_not_polOk`) -/
theorem fasta_steady_state_no_alloc_std (inp : List UInt8) (rs : List Spec.FaRec) (hrs : Spec.fasta inp = .records rs)
    (cap : Nat) (hcap : 3 ≤ cap) (script : List ReadEv) (hs : FillProofs.NoFail script) (chunk : Nat)
    (i j : Nat) (hij : i < j) (hj : j < rs.length)
    (hle : (rs[j]'hj).seqLines.length ≤ (rs[i]'(by omega)).seqLines.length) :
    (Alloc.Fa.runNextSteps { lb := 1 } (runStates (j + 1) (Fasta.mkReader inp cap PolDesc.std.toPol script chunk))).2[j]? =
      some (some 0) :=
  fasta_steady_state_no_alloc_polGrows inp rs hrs cap hcap _ Fasta.polGrows_std script hs chunk _ i j hij hj hle

end SeqIo.Alloc.Fa

