import SeqIoModel.Model.Fmt
/-!
# The human-readable messages contain the reported values (property C17)

The `Display` text of every parse error contains, as contiguous bytes, the decimal line number,
the escaped offending byte, the record id and the two lengths it reports.
-/

open SeqIo

namespace SeqIo.DisplayProofs

/-- `a` occurs in `b` as a contiguous block (core's `a <:+: b`, with the equation turned round) -/
def isInfix (a b : List UInt8) : Prop := ∃ p s, b = p ++ a ++ s

theorem isInfix_refl (a : List UInt8) : isInfix a a := ⟨[], [], by simp⟩

theorem isInfix.append_right {a b : List UInt8} (h : isInfix a b) (c : List UInt8) :
    isInfix a (b ++ c) := by
  obtain ⟨p, s, rfl⟩ := h
  exact ⟨p, s ++ c, by simp⟩

theorem isInfix.append_left {a b : List UInt8} (h : isInfix a b) (c : List UInt8) :
    isInfix a (c ++ b) := by
  obtain ⟨p, s, rfl⟩ := h
  exact ⟨c ++ p, s, by simp⟩

theorem isInfix.trans {a b c : List UInt8} (h1 : isInfix a b) (h2 : isInfix b c) : isInfix a c := by
  obtain ⟨p, s, rfl⟩ := h1
  obtain ⟨p', s', rfl⟩ := h2
  exact ⟨p' ++ p, s ++ s', by simp⟩

def errPosOf : Fastq.Err → Option Fastq.ErrPos
  | .unequalLengths _ _ p => some p
  | .invalidStart _ p => some p
  | .invalidSep _ p => some p
  | .unexpectedEnd p => some p
  | .io _ => none
  | .bufferLimit => none

/-- FASTA: the message contains the line number and the escaped byte found -/
theorem fasta_msg_contains (line : Nat) (found : UInt8) :
    isInfix (Fmt.dec line) (Fmt.fastaErr (.invalidStart line found)) ∧
    isInfix (Fmt.escapeDefault found) (Fmt.fastaErr (.invalidStart line found)) := by
  constructor
  · exact ((isInfix_refl _).append_left _).append_right _
  · exact ((((isInfix_refl _).append_left _).append_right _).append_right _).append_right _

theorem errPos_contains_line (p : Fastq.ErrPos) :
    isInfix (Fmt.str "line " ++ Fmt.dec p.line) (Fmt.errPos p) :=
  by unfold Fmt.errPos; exact ⟨_, [], by rw [List.append_nil, List.append_assoc]⟩

theorem errPos_contains_id (p : Fastq.ErrPos) (i : List UInt8) (h : p.id = some i) :
    isInfix i (Fmt.errPos p) := by
  simp only [Fmt.errPos, h]
  exact ((((isInfix_refl i).append_left _).append_right _).append_right _).append_right _

theorem fastq_msg_contains_pos (e : Fastq.Err) (p : Fastq.ErrPos) (he : errPosOf e = some p) :
    isInfix (Fmt.errPos p) (Fmt.fastqErr e) := by
  cases e <;> simp only [errPosOf, Option.some.injEq, reduceCtorEq] at he <;> subst he <;>
    exact ((isInfix_refl _).append_left _).append_right _

/-- FASTQ: the message contains `line N` for the line number `N` of the reported position -/
theorem fastq_msg_contains_line (e : Fastq.Err) (p : Fastq.ErrPos) (he : errPosOf e = some p) :
    isInfix (Fmt.str "line " ++ Fmt.dec p.line) (Fmt.fastqErr e) :=
  (errPos_contains_line p).trans (fastq_msg_contains_pos e p he)

/-- FASTQ: the message contains the record id whenever the position has one -/
theorem fastq_msg_contains_id (e : Fastq.Err) (p : Fastq.ErrPos) (he : errPosOf e = some p)
    (i : List UInt8) (hi : p.id = some i) : isInfix i (Fmt.fastqErr e) :=
  (errPos_contains_id p i hi).trans (fastq_msg_contains_pos e p he)

/-- … quoted, as `record 'ID' at line N` -/
theorem fastq_msg_contains_record_id (e : Fastq.Err) (p : Fastq.ErrPos) (he : errPosOf e = some p)
    (i : List UInt8) (hi : p.id = some i) :
    isInfix (Fmt.str "record '" ++ i ++ Fmt.str "' at " ++ Fmt.str "line " ++ Fmt.dec p.line)
      (Fmt.fastqErr e) := by
  refine isInfix.trans ⟨[], [], ?_⟩ (fastq_msg_contains_pos e p he)
  simp only [Fmt.errPos, hi, List.nil_append, List.append_nil, List.append_assoc]

/-- FASTQ: both lengths appear in the length-mismatch message -/
theorem fastq_msg_contains_lengths (s q : Nat) (p : Fastq.ErrPos) :
    isInfix (Fmt.dec s) (Fmt.fastqErr (.unequalLengths s q p)) ∧
    isInfix (Fmt.dec q) (Fmt.fastqErr (.unequalLengths s q p)) := by
  constructor
  · exact ((((((isInfix_refl _).append_left _).append_right _).append_right _).append_right _).append_right
      _).append_right _
  · exact ((((isInfix_refl _).append_left _).append_right _).append_right _).append_right _

/-- FASTQ: the escaped offending byte appears in the start and separator messages -/
theorem fastq_msg_contains_found (f : UInt8) (p : Fastq.ErrPos) :
    isInfix (Fmt.escapeDefault f) (Fmt.fastqErr (.invalidStart f p)) ∧
    isInfix (Fmt.escapeDefault f) (Fmt.fastqErr (.invalidSep f p)) := by
  constructor <;>
    exact ((((isInfix_refl _).append_left _).append_right _).append_right _).append_right _

end SeqIo.DisplayProofs
