import SeqIoModel.Proofs.FastaStream
import SeqIoModel.Proofs.FastqStream
import SeqIoModel.Proofs.Display
/-!
# C17 – parse errors pinpoint the offending record

The stream theorems include the error observations: `Obs.error e` carries the kind and every field
(line, found byte, lengths, id bytes), and the theorems say it is S's error – identical for every
buffer size and chunking.  S defines the fields from the whole input: line = true 1-based line
(`Spec.fasta`: first non-blank line; `Spec.fqGroup`/`fqGo`: header line for invalid start and unequal
lengths, `line + 2` for the separator, `line + k` for a record truncated after `k` lines), found =
the byte at that place, lengths = the trimmed field lengths, id = the header up to the first space.
The message text (`Display`) is compared byte-exactly with `Model/Fmt.lean` on every run; that it
contains the values is proved in `Proofs/Display.lean`.
-/

namespace SeqIo.Thm.C17
open SeqIo SeqIo.FillProofs

/-- FASTA: the invalid-start error (line, found byte) is S's for every configuration -/
theorem fasta_error_is_specs (inp : List UInt8) (cap : Nat) (hcap : 3 ≤ cap) (pol : Pol) (hpol : Fasta.PolGrows pol)
    (script : List ReadEv) (hs : NoFail script) (chunk : Nat) (k : Nat) :
    Fasta.runNexts k (Fasta.mkReader inp cap pol script chunk) =
      (Fasta.specObs inp ++ List.replicate k Fasta.Obs.none).take k :=
  Fasta.fasta_next_stream_polGrows inp cap hcap pol hpol script hs chunk k

/-- FASTQ: the first error, with kind, line, found byte, lengths and id, is S's for every configuration -/
theorem fastq_error_is_specs (inp : List UInt8) (cap : Nat) (hcap : 3 ≤ cap) (pol : Pol) (hpol : Fastq.PolGrows pol)
    (script : List ReadEv) (hs : NoFail script) (chunk : Nat) (k : Nat) :
    Fastq.runNexts k (Fastq.mkReader inp cap pol script chunk) =
      (Fastq.specObs inp ++ List.replicate k Fastq.Obs.none).take k :=
  Fastq.fastq_next_stream_polGrows inp cap hcap pol hpol script hs chunk k

/-- S on malformed inputs: the line is the true line, the byte the one found there -/
example : Fasta.specObs [13, 10, 10, 65, 10] = [.error (.invalidStart 3 65)] := by decide
example : Fastq.specObs [64, 97, 32, 98, 10, 65, 10, 45, 10, 73, 10] =
    [.error (.invalidSep 45 { line := 3, id := some [97] })] := by decide

/-- the human-readable message contains the reported values: FASTA line and found byte -/
theorem fasta_message_contains (line : Nat) (found : UInt8) :
    DisplayProofs.isInfix (Fmt.dec line) (Fmt.fastaErr (.invalidStart line found)) ∧
    DisplayProofs.isInfix (Fmt.escapeDefault found) (Fmt.fastaErr (.invalidStart line found)) :=
  DisplayProofs.fasta_msg_contains line found

/-- FASTQ: "line N" for the error's position -/
theorem fastq_message_contains_line (e : Fastq.Err) (p : Fastq.ErrPos) (he : DisplayProofs.errPosOf e = some p) :
    DisplayProofs.isInfix (Fmt.str "line " ++ Fmt.dec p.line) (Fmt.fastqErr e) :=
  DisplayProofs.fastq_msg_contains_line e p he

/-- FASTQ: both lengths -/
theorem fastq_message_contains_lengths (s q : Nat) (p : Fastq.ErrPos) :
    DisplayProofs.isInfix (Fmt.dec s) (Fmt.fastqErr (.unequalLengths s q p)) ∧
    DisplayProofs.isInfix (Fmt.dec q) (Fmt.fastqErr (.unequalLengths s q p)) :=
  DisplayProofs.fastq_msg_contains_lengths s q p

/-- FASTQ: the byte actually found -/
theorem fastq_message_contains_found (f : UInt8) (p : Fastq.ErrPos) :
    DisplayProofs.isInfix (Fmt.escapeDefault f) (Fmt.fastqErr (.invalidStart f p)) ∧
    DisplayProofs.isInfix (Fmt.escapeDefault f) (Fmt.fastqErr (.invalidSep f p)) :=
  DisplayProofs.fastq_msg_contains_found f p

end SeqIo.Thm.C17
