import SeqIoModel.Proofs.WriteRoundtrip
import SeqIoModel.Proofs.EndToEnd
/-!
# C10 – FASTA writing round-trips and wraps at the requested width

Statements about the writer model (`Model/Write.lean`, a line-by-line mirror of the `fasta::write_*`
functions and record methods, compared byte-exactly with the real functions on every run) and the
reference parser S; then, through C01, the same for the concrete reader at every capacity
(`written_record_reads_back` and the two after it).
-/

namespace SeqIo.Thm.C10
open SeqIo SeqIo.Spec SeqIo.Write

/-- `write_to` / `OwnedRecord::write`: header and sequence parse back exactly. -/
theorem write_to_roundtrip (h s : List UInt8) (hh : HeadOk h) (hs : SeqOk s) :
    ∃ r : FaRec, Spec.fasta (Write.faTo h s) = .records [r] ∧ r.head = h ∧ r.seq = s ∧ r.byte = 0 ∧ r.line = 1 :=
  WriteProofs.fasta_faTo_roundtrip h s hh hs

/-- `write_parts`: id and optional description. -/
theorem write_parts_roundtrip (id : List UInt8) (desc : Option (List UInt8)) (s : List UInt8)
    (hh : HeadOk (id ++ (match desc with | some d => SP :: d | none => []))) (hs : SeqOk s) :
    ∃ r : FaRec, Spec.fasta (Write.faParts id desc s) = .records [r] ∧
      r.head = id ++ (match desc with | some d => SP :: d | none => []) ∧ r.seq = s :=
  WriteProofs.fasta_faParts_roundtrip id desc s hh hs

/-- many records written back to back parse to the same list -/
theorem write_many_roundtrip (rs : List (List UInt8 × List UInt8))
    (hok : ∀ p ∈ rs, HeadOk p.1 ∧ SeqOk p.2) :
    ∃ recs : List FaRec, Spec.fasta (rs.flatMap fun p => Write.faTo p.1 p.2) = .records recs ∧
      recs.map (fun r => (r.head, r.seq)) = rs :=
  WriteProofs.fasta_many_roundtrip rs hok

/-- wrapped output: the chunks concatenate to the sequence, none is empty or longer than the
width, and all but the last have exactly the width -/
theorem wrap_widths (w : Nat) (s : List UInt8) (hw : 0 < w) :
    (Write.chunks w s).flatten = s ∧
    (∀ c ∈ Write.chunks w s, 0 < c.length ∧ c.length ≤ w) ∧
    (∀ c ∈ (Write.chunks w s).dropLast, c.length = w) :=
  ⟨WriteProofs.chunks_flatten w s hw, WriteProofs.chunks_width w s hw⟩

/-- for a non-empty sequence the wrapped output is the same whether the sequence is supplied
whole or split into arbitrary (even empty) chunks (`write_wrap_seq_iter` vs `write_wrap_seq`) -/
theorem wrap_iter_eq_whole (segs : List (List UInt8)) (w : Nat) (hw : 0 < w) (hne : segs.flatten ≠ []) :
    Write.wrapSeqIter segs w = Write.wrapSeq segs.flatten w :=
  WriteProofs.wrapSeqIter_eq_wrapSeq segs w hw hne

/-- wrapped records parse back to the header and the unwrapped sequence -/
theorem write_wrap_roundtrip (h s : List UInt8) (w : Nat) (hw : 0 < w) (hh : HeadOk h) (hs : SeqOk s) :
    ∃ out r, Write.faOwnedWrap h s w = some out ∧ Spec.fasta out = .records [r] ∧ r.head = h ∧ r.seq = s :=
  WriteProofs.fasta_wrap_roundtrip h s w hw hh hs

/-- `RefRecord::write` (header, then the record's sequence lines through `write_seq_iter`) writes
what `write_to` writes for the concatenated sequence – so it round-trips too -/
theorem ref_record_write_eq (h : List UInt8) (lines : List (List UInt8)) :
    Write.faRefWrite h lines = Write.faTo h lines.flatten := by
  simp [Write.faRefWrite, Write.faTo, Write.seqIter, Write.seq]

/-- `RefRecord::write_wrap` (lines through `write_wrap_seq_iter`) equals `OwnedRecord::write_wrap` of the
concatenated sequence, for a non-empty sequence and any line structure of the input record -/
theorem ref_record_write_wrap_eq (h : List UInt8) (lines : List (List UInt8)) (w : Nat) (hw : 0 < w)
    (hne : lines.flatten ≠ []) :
    Write.faRefWrap h lines w = Write.faOwnedWrap h lines.flatten w := by
  simp [Write.faRefWrap, Write.faOwnedWrap, WriteProofs.wrapSeqIter_eq_wrapSeq lines w hw hne]

/-- non-vacuity: the hypotheses are satisfiable and the statement is about a real record -/
example : HeadOk [105, 100, 32, 100] ∧ SeqOk [65, 67, 71, 84, 65, 67] ∧ (0 < 4) := by decide

/-! ## end to end: written text read back by the concrete reader M at every configuration
(composition with C01's `fasta_reading_is_spec`) -/

/-- a record written by `write_to` / `OwnedRecord::write`, read with the FASTA reader at ANY capacity ≥ 3,
never-refusing policy and chunking: exactly that header and sequence, then end of input -/
theorem written_record_reads_back (h s : List UInt8) (hh : HeadOk h) (hsq : SeqOk s)
    (cap : Nat) (hcap : 3 ≤ cap) (pol : Pol) (hpol : PolOk pol) (script : List ReadEv)
    (hs : FillProofs.NoFail script) (chunk k : Nat) :
    ∃ r : FaRec, r.head = h ∧ r.seq = s ∧ r.byte = 0 ∧ r.line = 1 ∧
      Fasta.runNexts k (Fasta.mkReader (Write.faTo h s) cap pol script chunk) =
        ([Fasta.Obs.record r.head r.seqLines r.line r.byte] ++ List.replicate k Fasta.Obs.none).take k :=
  E2E.fasta_written_record_reads_back h s hh hsq cap hcap pol hpol script hs chunk k

/-- many records written back to back are read back as the same list -/
theorem written_records_read_back (rs : List (List UInt8 × List UInt8))
    (hok : ∀ p ∈ rs, HeadOk p.1 ∧ SeqOk p.2)
    (cap : Nat) (hcap : 3 ≤ cap) (pol : Pol) (hpol : PolOk pol) (script : List ReadEv)
    (hs : FillProofs.NoFail script) (chunk k : Nat) :
    ∃ recs : List FaRec, recs.map (fun r => (r.head, r.seq)) = rs ∧
      Fasta.runNexts k (Fasta.mkReader (rs.flatMap fun p => Write.faTo p.1 p.2) cap pol script chunk) =
        (recs.map (fun r => Fasta.Obs.record r.head r.seqLines r.line r.byte) ++ List.replicate k Fasta.Obs.none).take k :=
  E2E.fasta_written_records_read_back rs hok cap hcap pol hpol script hs chunk k

/-- wrapped output is read back as the header and the unwrapped sequence -/
theorem wrapped_record_reads_back (h s : List UInt8) (w : Nat) (hw : 0 < w) (hh : HeadOk h) (hsq : SeqOk s)
    (cap : Nat) (hcap : 3 ≤ cap) (pol : Pol) (hpol : PolOk pol) (script : List ReadEv)
    (hs : FillProofs.NoFail script) (chunk k : Nat) :
    ∃ (out : List UInt8) (r : FaRec), Write.faOwnedWrap h s w = some out ∧ r.head = h ∧ r.seq = s ∧
      Fasta.runNexts k (Fasta.mkReader out cap pol script chunk) =
        ([Fasta.Obs.record r.head r.seqLines r.line r.byte] ++ List.replicate k Fasta.Obs.none).take k :=
  E2E.fasta_wrapped_record_reads_back h s w hw hh hsq cap hcap pol hpol script hs chunk k

end SeqIo.Thm.C10
