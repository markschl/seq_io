import SeqIoModel.Proofs.ParallelInvariants
/-!
# C15 – errors reach the caller of the parallel functions

Invariants of the protocol model `Model/Parallel.lean`, proved in `Proofs/ParallelInvariants.lean` for the
reachable states of every configuration.
-/

namespace SeqIo.Thm.C15
open SeqIo.Par

/-- the consumer receives the reader's error at most once, and only if the reader failed -/
theorem error_at_most_once (c : Cfg) (s : St) (hT : 0 < c.T) (hQ : 0 < c.Q) (h : Reach c s) :
    s.errsSeen ≤ 1 ∧ (s.errsSeen = 1 → c.endErr = true) :=
  SeqIo.Par.error_at_most_once c s hT hQ h

/-- each earlier set is received at most once (sets read after the error do not exist: the reader
stops at the error) -/
theorem earlier_sets_at_most_once (c : Cfg) (s : St) (hT : 0 < c.T) (hQ : 0 < c.Q) (h : Reach c s) :
    (s.delivered.map (·.2)).Nodup ∧ ∀ b ∈ s.delivered.map (·.2), b < s.filled :=
  delivered_nodup c s hT hQ h

/-- a consumer that keeps draining receives all earlier sets, the error exactly once, and the end marker -/
theorem drain_gets_all_then_end (c : Cfg) (s : St) (hT : 0 < c.T) (hQ : 0 < c.Q) (h : Reach c s)
    (hf : s.mn = .returned) (h1 : c.stopAfter = none) (h2 : c.readerInitFails = false)
    (h3 : c.dsInitFailAt = none) (he : c.endErr = true) (hc : c.contAfterErr = true) :
    s.got = c.N ∧ s.finSeen = true ∧ s.errsSeen = 1 := by
  have := drained_gets_all c s hT hQ h hf h1 h2 h3 (Or.inr hc)
  exact ⟨this.1, this.2.1, this.2.2 he⟩

/-- a failing initialisation closure is returned to the caller as an error: the call returns (C08) and
the returned state carries the error flag; the protocol of the repaired crate (finding D6) has no panic state -/
theorem init_failure_is_returned (c : Cfg) (s : St) (h : Reach c s) (hf : s.mn = .returned) :
    (c.readerInitFails = true → s.readerErr = true ∨ s.mainErr = true) ∧
      (s.mainErr = true → c.dsInitFailAt.isSome) :=
  init_failure_returned c s h hf

end SeqIo.Thm.C15
