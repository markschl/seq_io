import SeqIoModel.Proofs.FastaStream
import SeqIoModel.Proofs.FastqStream
import SeqIoModel.Proofs.FastaHistoryTotal
import SeqIoModel.Proofs.FastqHistorySafe
import SeqIoModel.Proofs.FastqHistoryGenuine
import SeqIoModel.Proofs.FastaOrderAfterFault
import SeqIoModel.Proofs.FastqOrderAfterFault
/-!
# C06 – readers are total: no panic, hang or fabricated record

Every slice, index and checked subtraction of the Rust code is a checked operation in M that yields
`Out.panic`; every loop takes fuel and yields `Out.fuel` when it runs out.  "No panic" and "no hang"
are therefore theorems about M.  First all `next()` histories on all inputs, capacities and
chunkings, FASTA also with policies that refuse; then arbitrary histories with record sets, seeks,
refusing policies and injected source failures (`*_any_history_total`, `*_any_history_genuine`, from
`Proofs/FastaHistoryTotal.lean`, `Proofs/FastqHistorySafe.lean`, `Proofs/FastqHistoryGenuine.lean`);
then what is delivered after errors, in order (`Proofs/F*OrderAfterFault.lean`).
-/

namespace SeqIo.Thm.C06
open SeqIo SeqIo.FillProofs

/-- FASTA: from every state reachable by `next` calls (policy may refuse) – `InvW inp r = ∃ rest, InvR inp r rest`,
where `InvR inp r rest` (`Proofs/FastaStream.lean`) says that `r` is a state between `next` calls on `inp` and
`rest` what S still prescribes for the calls to come: no panic, no fuel
exhaustion, in the call and in the views of the returned record; the result is a record / end of
input, the invalid-start error, or the buffer-limit error -/
theorem fasta_next_total {inp : List UInt8} {r : Fasta.Reader} {fuel : Nat} (h : Fasta.InvW inp r)
    (hfuel : inp.length < fuel) :
    (Fasta.next fuel r).2 ≠ .panic ∧ (Fasta.next fuel r).2 ≠ .fuel ∧
    Fasta.observe (Fasta.next fuel r).1 (Fasta.next fuel r).2 ≠ .panic ∧
    Fasta.observe (Fasta.next fuel r).1 (Fasta.next fuel r).2 ≠ .fuel ∧
    ((∃ b, (Fasta.next fuel r).2 = .ok b) ∨ (∃ ln c, (Fasta.next fuel r).2 = .err (.invalidStart ln c)) ∨
      (Fasta.next fuel r).2 = .err .bufferLimit) :=
  ⟨Fasta.invW_no_panic h hfuel, Fasta.invW_fuel_enough h hfuel,
   (Fasta.invW_observe_no_panic h hfuel).1, (Fasta.invW_observe_no_panic h hfuel).2,
   Fasta.invW_next_result h hfuel⟩

/-- the initial state satisfies the invariant for every input, capacity ≥ 3, policy that answers
more than it is passed (or refuses) and failure-free script -/
theorem fasta_initial (inp : List UInt8) (cap : Nat) (hcap : 3 ≤ cap) (pol : Pol)
    (hpol : Fasta.PolWfPos pol) (script : List ReadEv) (hs : NoFail script) (chunk : Nat) :
    Fasta.InvW inp (Fasta.mkReader inp cap pol script chunk) :=
  Fasta.invW_mkReader inp cap hcap pol hpol script hs chunk

/-- genuine records only, also after errors and after the end: every observation of a `next()`
history is S's (a record of the input, S's error, end of input) up to the first refusal -/
theorem fasta_genuine_until_refusal (inp : List UInt8) (cap : Nat) (hcap : 3 ≤ cap) (pol : Pol)
    (hpol : Fasta.PolWfPos pol) (script : List ReadEv) (hs : NoFail script) (chunk k : Nat) :
    ∃ j, j ≤ k ∧ (Fasta.runNexts k (Fasta.mkReader inp cap pol script chunk)).take j =
        ((Fasta.specObs inp ++ List.replicate k Fasta.Obs.none).take k).take j ∧
      (j < k → (Fasta.runNexts k (Fasta.mkReader inp cap pol script chunk))[j]? = some (Fasta.Obs.error .bufferLimit)) :=
  Fasta.fasta_next_stream_refusing inp cap hcap pol hpol script hs chunk k

/-- FASTQ: from every state reachable by `next` calls with a failure-free source and a policy that never refuses
(`Fastq.Inv inp r = ∃ items, Good inp True r items`, `Proofs/FastqStream.lean`): invariant preserved, no panic,
enough fuel -/
theorem fastq_next_total (inp : List UInt8) (r : Fastq.Reader) (h : Fastq.Inv inp r) :
    Fastq.Inv inp (Fastq.next (opFuel r.br.src.inp.length r.br.src.script.length) r).1 ∧
    (Fastq.next (opFuel r.br.src.inp.length r.br.src.script.length) r).2 ≠ .panic ∧
    (Fastq.next (opFuel r.br.src.inp.length r.br.src.script.length) r).2 ≠ .fuel := by
  have hf : r.br.src.inp.length + 2 ≤ opFuel r.br.src.inp.length r.br.src.script.length := by
    unfold opFuel; omega
  exact ⟨Fastq.next_preserves_inv inp _ r h hf, (Fastq.no_panic inp _ r h hf).1, Fastq.fuel_enough inp r h⟩

/-- after the first error every further read reports end of input (FASTQ stream, all inputs): the
stream is S's items followed by `none` forever -/
theorem fastq_after_error_end (inp : List UInt8) (cap : Nat) (hcap : 3 ≤ cap) (pol : Pol) (hpol : Fastq.PolGrows pol)
    (script : List ReadEv) (hs : NoFail script) (chunk : Nat) (k : Nat) :
    Fastq.runNexts k (Fastq.mkReader inp cap pol script chunk) =
      (Fastq.specObs inp ++ List.replicate k Fastq.Obs.none).take k :=
  Fastq.fastq_next_stream_polGrows inp cap hcap pol hpol script hs chunk k

/-- FASTA, full strength: for EVERY input, capacity ≥ 3, policy that answers more than it is passed
or refuses, read script (failures of any kind at any call, interrupted reads), scripted seek failures
and history of operations (reads of all kinds, set iteration, seeks, calls after errors and after the
end): no observation is a panic or fuel exhaustion … -/
theorem fasta_any_history_total (inp : List UInt8) (cap : Nat) (hcap : 3 ≤ cap) (pol : Pol)
    (hpol : Fasta.PolWfPos pol) (script : List ReadEv) (chunk : Nat) (seekFails : List (Nat × IoKind))
    (ops : List Fasta.Hist.Op) :
    ∀ o ∈ Fasta.Hist.runM (Fasta.Hist.mkMStF inp cap pol script chunk seekFails) ops, o ≠ .panic ∧ o ≠ .fuel :=
  Fasta.Hist.fasta_history_total inp cap hcap pol hpol script chunk seekFails ops

/-- … and every record shown by any observation (next, owned, record-set iteration) is a record of
the input (`Genuine`: head and lines of some record of S) – no fabricated or truncated record, also
after errors (this is the statement the former finding D9 violated) -/
theorem fasta_any_history_genuine (inp : List UInt8) (cap : Nat) (hcap : 3 ≤ cap) (pol : Pol)
    (hpol : Fasta.PolWfPos pol) (script : List ReadEv) (chunk : Nat) (seekFails : List (Nat × IoKind))
    (ops : List Fasta.Hist.Op) :
    ∀ o ∈ Fasta.Hist.runM (Fasta.Hist.mkMStF inp cap pol script chunk seekFails) ops,
      Fasta.Hist.Genuine (Fasta.Hist.items inp) o :=
  Fasta.Hist.fasta_history_genuine inp cap hcap pol hpol script chunk seekFails ops

/-- FASTQ, totality at full strength: every input, capacity ≥ 1, policy that answers more than it is
passed or refuses, read script with failures anywhere, scripted seek failures, history: no panic, no
fuel exhaustion -/
theorem fastq_any_history_total (inp : List UInt8) (cap : Nat) (hcap : 1 ≤ cap) (pol : Pol)
    (hpol : PolWf pol) (script : List ReadEv) (chunk : Nat) (seekFails : List (Nat × IoKind))
    (ops : List Fastq.Hist.Op) :
    ∀ o ∈ Fastq.Hist.runM (Fastq.Hist.mkM inp cap pol script chunk seekFails) ops, o ≠ .panic ∧ o ≠ .fuel :=
  Fastq.fastq_history_total inp cap hcap pol hpol script chunk seekFails ops

/-- FASTQ, genuine records at full strength: for every input, capacity, policy that may refuse, read
script with failures anywhere, scripted seek failures and history, every record shown by any observation
(next, owned, record-set iteration) is a record of S -/
theorem fastq_any_history_genuine (inp : List UInt8) (cap : Nat) (hcap : 3 ≤ cap) (pol : Pol)
    (hpol : PolWf pol) (script : List ReadEv) (chunk : Nat) (seekFails : List (Nat × IoKind))
    (ops : List Fastq.Hist.Op) (hops : ∀ op ∈ ops, op.wf = true) :
    ∀ o ∈ Fastq.Hist.runM (Fastq.Hist.mkM inp cap pol script chunk seekFails) ops,
      ∀ x ∈ Fastq.recsOf o, x ∈ Fastq.allRecs inp :=
  Fastq.fastq_history_genuine inp cap hcap pol hpol script chunk seekFails ops hops

/-! ## "… or further genuine records IN ORDER": the order of what is delivered after errors -/

/-- FASTA: under ARBITRARY read scripts (failures anywhere), scripted seek failures and refusing
policies, along any history without seeks the records returned by single reads (`next` / owned
reads; (header, concatenated sequence)) form, in the order they were returned, a sub-sequence of S's
records – none twice, none out of order, whatever errors occurred in between and whatever set reads
were interleaved -/
theorem fasta_records_in_order_after_faults (inp : List UInt8) (cap : Nat) (hcap : 3 ≤ cap) (pol : Pol)
    (hpol : Fasta.PolWfPos pol) (script : List ReadEv) (chunk : Nat) (seekFails : List (Nat × IoKind))
    (ops : List Fasta.Hist.Op) (hsf : Fasta.Hist.SeekFree ops) :
    List.Sublist
      (Fasta.Hist.singles (Fasta.Hist.runM (Fasta.Hist.mkMStF inp cap pol script chunk seekFails) ops))
      ((Fasta.Hist.items inp).recs.map fun rc => (rc.head, rc.seq)) :=
  Fasta.Hist.fasta_records_in_order_after_faults inp cap hcap pol hpol script chunk seekFails ops hsf

/-- … and so does everything delivered – single reads AND the batches of record set reads (each
batch as a `dump` of the set right after the call shows it), in the order of the calls -/
theorem fasta_all_delivered_in_order_after_faults (inp : List UInt8) (cap : Nat) (hcap : 3 ≤ cap)
    (pol : Pol) (hpol : Fasta.PolWfPos pol) (script : List ReadEv) (chunk : Nat)
    (seekFails : List (Nat × IoKind)) (ops : List Fasta.Hist.Op) (hsf : Fasta.Hist.SeekFree ops) :
    List.Sublist (Fasta.Hist.delivered (Fasta.Hist.mkMStF inp cap pol script chunk seekFails) ops)
      ((Fasta.Hist.items inp).recs.map fun rc => (rc.head, rc.seq)) :=
  Fasta.Hist.fasta_all_delivered_in_order_after_faults inp cap hcap pol hpol script chunk seekFails ops hsf

/-- … and every batch is a contiguous segment of S's records (any history, seeks included): a `dump`
right after a record set read that returned `c` records shows the records `k0, …, k0 + c - 1` -/
theorem fasta_batch_contiguous_after_faults (inp : List UInt8) (cap : Nat) (hcap : 3 ≤ cap)
    (pol : Pol) (hpol : Fasta.PolWfPos pol) (script : List ReadEv) (chunk : Nat)
    (seekFails : List (Nat × IoKind)) (ops : List Fasta.Hist.Op) (j : Nat) (n : Option Nat) (c : Nat)
    (o : Fasta.Hist.ObsH)
    (h : Fasta.Hist.runM (Fasta.Hist.mkMStF inp cap pol script chunk seekFails)
        (ops ++ [.set j n, .dump j]) =
      Fasta.Hist.runM (Fasta.Hist.mkMStF inp cap pol script chunk seekFails) ops ++ [.batch c, o]) :
    ∃ k0, 1 ≤ c ∧ k0 + c ≤ (Fasta.Hist.items inp).recs.length ∧
      o = .dump ((((Fasta.Hist.items inp).recs.drop k0).take c).map Fasta.Hist.view) :=
  Fasta.Hist.fasta_batch_contiguous_after_faults inp cap hcap pol hpol script chunk seekFails ops j n c o h

/-- FASTQ: the same three statements (well-formed histories, as in `fastq_any_history_genuine`) -/
theorem fastq_records_in_order_after_faults (inp : List UInt8) (cap : Nat) (hcap : 3 ≤ cap) (pol : Pol)
    (hpol : PolWf pol) (script : List ReadEv) (chunk : Nat) (seekFails : List (Nat × IoKind))
    (ops : List Fastq.Hist.Op) (hops : ∀ op ∈ ops, op.wf = true) (hsf : Fastq.Hist.SeekFree ops) :
    List.Sublist
      (Fastq.Hist.singles (Fastq.Hist.runM (Fastq.Hist.mkM inp cap pol script chunk seekFails) ops))
      (Fastq.allRecs inp) :=
  Fastq.fastq_records_in_order_after_faults inp cap hcap pol hpol script chunk seekFails ops hops hsf

theorem fastq_all_delivered_in_order_after_faults (inp : List UInt8) (cap : Nat) (hcap : 3 ≤ cap)
    (pol : Pol) (hpol : PolWf pol) (script : List ReadEv) (chunk : Nat)
    (seekFails : List (Nat × IoKind)) (ops : List Fastq.Hist.Op) (hops : ∀ op ∈ ops, op.wf = true)
    (hsf : Fastq.Hist.SeekFree ops) :
    List.Sublist (Fastq.Hist.delivered (Fastq.Hist.mkM inp cap pol script chunk seekFails) ops)
      (Fastq.allRecs inp) :=
  Fastq.fastq_all_delivered_in_order_after_faults inp cap hcap pol hpol script chunk seekFails ops hops hsf

theorem fastq_batch_contiguous_after_faults (inp : List UInt8) (cap : Nat) (hcap : 3 ≤ cap)
    (pol : Pol) (hpol : PolWf pol) (script : List ReadEv) (chunk : Nat)
    (seekFails : List (Nat × IoKind)) (ops : List Fastq.Hist.Op) (hops : ∀ op ∈ ops, op.wf = true)
    (j : Nat) (n : Option Nat) (hwf : (Fastq.Hist.Op.set j n).wf = true) (c : Nat) (o : Fastq.Hist.ObsH)
    (h : Fastq.Hist.runM (Fastq.Hist.mkM inp cap pol script chunk seekFails) (ops ++ [.set j n, .dump j]) =
      Fastq.Hist.runM (Fastq.Hist.mkM inp cap pol script chunk seekFails) ops ++ [.batch c, o]) :
    ∃ (k : Nat) (ys : List Spec.FqRec), 1 ≤ c ∧ ys.length = c ∧
      ((Spec.fastq inp).drop k).take c = ys.map Spec.FqItem.record ∧
      o = .dump (ys.map Fastq.Hist.recOf) :=
  Fastq.fastq_batch_contiguous_after_faults inp cap hcap pol hpol script chunk seekFails ops hops j n hwf c o h

end SeqIo.Thm.C06
