import SeqIoModel.Proofs.Fill
import SeqIoModel.Proofs.FastaStreamGrowth
import SeqIoModel.Proofs.FastqGrowth
import SeqIoModel.Proofs.FastaSetGrowth
import SeqIoModel.Proofs.FastqSetGrowth
/-!
# C09 – the buffer grows only as the policy directs and only when a record does not fit

Reader-level theorems are stated for `next()` of both machines (FASTA: `InvW inp r = ∃ rest, InvR inp r rest`, the
invariant of all states reachable by `next` calls with a policy that may refuse, `Proofs/FastaStream.lean`;
FASTQ: `Good inp G r its`, `Proofs/FastqStreamOutcome.lean`) and for record set reads from any state of a history
(`fasta_set_read_growth`, `fastq_set_read_growth`).
-/

namespace SeqIo.Thm.C09
open SeqIo SeqIo.Fasta SeqIo.FillProofs

/-- Growth only via the policy: the requests of one `next()` call form a chain – the first request
passes the current capacity, every later one the previous answer – and the capacity afterwards is
the last answer (`LogChain`); the policy object itself is untouched. -/
theorem growth_only_via_policy {inp : List UInt8} {r : Reader} {fuel : Nat} (h : InvW inp r)
    (hfuel : inp.length < fuel) :
    ∃ new, (next fuel r).1.log = r.log ++ new ∧
      LogChain r.br.cap new (next fuel r).1.br.cap ∧ (next fuel r).1.pol.f = r.pol.f :=
  next_growth_log h hfuel

/-- the capacity reached by a chain is its last positive answer (or the old capacity) -/
theorem adopted_size_is_answer {c0 cf : Nat} {new : List (Nat × Option Nat)} (h : LogChain c0 new cf) :
    cf = (new.filterMap (·.2)).getLastD c0 :=
  logChain_final_cap h

/-- without a request the capacity does not change -/
theorem no_request_no_growth {inp : List UInt8} {r : Reader} {fuel : Nat}
    (h : InvW inp r) (hfuel : inp.length < fuel) (hlog : (next fuel r).1.log = r.log) :
    (next fuel r).1.br.cap = r.br.cap :=
  cap_unchanged_without_request h hfuel hlog

/-- only when needed: every request made during a `next()` call passes a capacity into which the
record being parsed (extent up to the next record start or the end of input, plus the one byte
needed to recognise its end) does not fit -/
theorem request_only_when_unfit {inp : List UInt8} {r : Reader} {fuel : Nat} (h : InvW inp r)
    (hfuel : inp.length < fuel) (new : List (Nat × Option Nat))
    (hlog : (next fuel r).1.log = r.log ++ new) (hne : new ≠ []) :
    ∃ s, RecStart inp s ∧ ∀ e ∈ new, e.1 < recExtent inp s + 1 :=
  only_when_unfit h hfuel new hlog hne

/-- input whose records all fit never causes growth, however long it is -/
theorem fitting_input_never_grows (inp : List UInt8) (cap : Nat) (hcap : 3 ≤ cap) (pol : Pol)
    (hpol : PolWfPos pol) (script : List ReadEv) (hs : NoFail script) (chunk : Nat) (k : Nat)
    (hfit : Fits inp cap) :
    (runState k (mkReader inp cap pol script chunk)).log = [] ∧
      (runState k (mkReader inp cap pol script chunk)).br.cap = cap :=
  fitting_never_grows inp cap hcap pol hpol script hs chunk k hfit

/-- a buffer-limit error is returned if and only if the policy refused (the last request of the
call was answered `None`) -/
theorem buffer_limit_iff_refused {inp : List UInt8} {r : Reader} {fuel : Nat} (h : InvW inp r)
    (hfuel : inp.length < fuel) :
    (next fuel r).2 = .err .bufferLimit ↔
      ∃ pre c, (next fuel r).1.log = r.log ++ (pre ++ [(c, none)]) :=
  bufferLimit_iff_refused h hfuel

/-- records that fit within the permitted sizes are parsed normally: with a policy that may refuse,
everything before the first refusal is exactly S's stream -/
theorem permitted_sizes_parse_normally (inp : List UInt8) (cap : Nat) (hcap : 3 ≤ cap) (pol : Pol)
    (hpol : PolWfPos pol) (script : List ReadEv) (hs : NoFail script) (chunk k : Nat) :
    ∃ j, j ≤ k ∧ (runNexts k (mkReader inp cap pol script chunk)).take j =
        ((specObs inp ++ List.replicate k Obs.none).take k).take j ∧
      (j < k → (runNexts k (mkReader inp cap pol script chunk))[j]? = some (Obs.error .bufferLimit)) :=
  fasta_next_stream_refusing inp cap hcap pol hpol script hs chunk k

/-- the built-in policies compute the documented sizes -/
theorem builtin_policies (t l c : Nat) :
    stdGrow c = doubleUntilGrow (2 ^ 23) c ∧
    (c < t → doubleUntilGrow t c = some (c * 2)) ∧
    (t ≤ c → doubleUntilGrow t c = some (c + t)) ∧
    (∀ n, limitedGrow t l c = some n ↔ doubleUntilGrow t c = some n ∧ n ≤ l) ∧
    (limitedGrow t l c = none ↔ ∃ n, doubleUntilGrow t c = some n ∧ l < n) :=
  ⟨std_is_doubleUntil c, doubleUntil_below t c, doubleUntil_above t c,
   fun n => limited_some_iff t l c n, limited_none_iff t l c⟩

/-- … and honour the contract the readers rely on: a permitted size exceeds the current one -/
theorem builtin_policies_grow (t l c n : Nat) (hc : 0 < c) (ht : 0 < t) :
    (doubleUntilGrow t c = some n → c < n) ∧ (limitedGrow t l c = some n → c < n ∧ n ≤ l) :=
  ⟨doubleUntil_grows t c n hc ht, limited_grows t l c n hc ht⟩

/-- a policy installed in mid-stream takes over without disturbing the stream: `set_policy` changes
nothing but the policy field -/
theorem set_policy_transparent (r : Reader) (p : Pol) :
    (setPolicy r p).br = r.br ∧ (setPolicy r p).bp = r.bp ∧ (setPolicy r p).line = r.line ∧
    (setPolicy r p).byte = r.byte ∧ (setPolicy r p).searchPos = r.searchPos ∧
    (setPolicy r p).state = r.state ∧ (setPolicy r p).log = r.log ∧ (setPolicy r p).pol = p := by
  simp [setPolicy]

/-- `Fastq.Good inp G r its`: `r` is a state between API calls on `inp`, and `its` are the items S prescribes for
what lies ahead.  `G` is the proposition "the environment is ideal": what `Good` says about the source (no failing
read or seek) and the policy (never refuses) it says under `G` only, so a statement for all `G` holds with and
without these assumptions.

FASTQ: the requests of one `next()` call form a chain from the capacity on entry to the capacity
on exit (`GrowLog`), buffer-limit is returned iff the last request was refused, and every request is
made while the group being parsed does not fit the capacity passed -/
theorem fastq_growth_bookkeeping (inp : List UInt8) (G : Prop) (fuel : Nat) (r : Fastq.Reader)
    (its : List Spec.FqItem) (hg : Fastq.Good inp G r its) (hfuel : r.br.src.inp.length + 2 ≤ fuel) :
    ∃ new b, (Fastq.next fuel r).1.log = r.log ++ new ∧
      Fastq.GrowLog r.br.cap new (Fastq.next fuel r).1.br.cap b ∧
      ((Fastq.next fuel r).2 = .err .bufferLimit ↔ b = true) ∧
      (∀ c a, (c, a) ∈ new → ¬ Fastq.Fits (inp.drop (Fastq.nextByte r)) c) :=
  Fastq.next_growth_log inp G fuel r its hg hfuel

/-- FASTQ: without a request the capacity does not change -/
theorem fastq_no_request_no_growth (inp : List UInt8) (G : Prop) (fuel : Nat) (r : Fastq.Reader)
    (its : List Spec.FqItem) (hg : Fastq.Good inp G r its) (hfuel : r.br.src.inp.length + 2 ≤ fuel)
    (h : (Fastq.next fuel r).1.log = r.log) : (Fastq.next fuel r).1.br.cap = r.br.cap :=
  Fastq.next_no_request_cap inp G fuel r its hg hfuel h

/-- FASTQ: input whose groups all fit never causes growth, however long it is -/
theorem fastq_fitting_input_never_grows (inp : List UInt8) (cap : Nat) (hcap : 3 ≤ cap) (pol : Pol)
    (hwf : Fastq.PolWf1 pol) (script : List ReadEv) (hs : NoFail script) (chunk : Nat)
    (hfit : Fastq.AllFit inp cap) (k : Nat) :
    (Fastq.nextN k (Fastq.mkReader inp cap pol script chunk)).log = [] ∧
      (Fastq.nextN k (Fastq.mkReader inp cap pol script chunk)).br.cap = cap :=
  Fastq.fitting_never_grows inp cap hcap pol hwf script hs chunk hfit k

/-- FASTA record-set reads (plain and exact-count) from any state a history can reach (`HInv`): the
requests form a chain, buffer-limit iff the last request was refused, and for PLAIN set reads every
request is made while the first record of the batch does not fit -/
theorem fasta_set_read_growth {inp : List UInt8} {m : Fasta.Hist.MSt} {a : Fasta.Hist.AState}
    (h : Fasta.Hist.HInv inp m a) (rs : Fasta.RecordSet) (n : Option Nat) :
    ∃ new, (Fasta.readRecordSetExact (Fasta.Hist.fuelOf m.r) m.r rs n).1.log = m.r.log ++ new ∧
      Fasta.LogChain m.r.br.cap new (Fasta.readRecordSetExact (Fasta.Hist.fuelOf m.r) m.r rs n).1.br.cap ∧
      (Fasta.readRecordSetExact (Fasta.Hist.fuelOf m.r) m.r rs n).1.pol.f = m.r.pol.f ∧
      ((Fasta.readRecordSetExact (Fasta.Hist.fuelOf m.r) m.r rs n).2.2 = .err .bufferLimit ↔
        ∃ pre c, new = pre ++ [(c, none)]) ∧
      (n = none → new = [] ∨ ∃ rc, (Fasta.Hist.recsOf inp)[a.k]? = some rc ∧ Fasta.RecStart inp rc.byte ∧
        ∀ e ∈ new, e.1 < Fasta.recExtent inp rc.byte + 1) :=
  Fasta.Hist.set_growth_log h rs n

/-- input whose records all fit never causes growth under ANY history of single reads, owned reads,
plain record-set reads, set iteration and position queries – and such a history is then accepted by
the abstract reader even with a policy that would refuse -/
theorem fasta_fitting_never_grows_any_history (inp : List UInt8) (cap : Nat) (hcap : 3 ≤ cap) (pol : Pol)
    (hpol : Fasta.PolWfPos pol) (script : List ReadEv) (hs : NoFail script) (chunk : Nat)
    (ops : List Fasta.Hist.Op) (hplain : ∀ op ∈ ops, Fasta.Hist.PlainOp op) (hfit : Fasta.Fits inp cap) :
    ((Fasta.Hist.finalM (Fasta.Hist.mkMSt inp cap pol script chunk) ops).r.log = [] ∧
      (Fasta.Hist.finalM (Fasta.Hist.mkMSt inp cap pol script chunk) ops).r.br.cap = cap) ∧
    Fasta.Hist.runA (Fasta.Hist.items inp) Fasta.Hist.aInit ops
      (Fasta.Hist.runM (Fasta.Hist.mkMSt inp cap pol script chunk) ops) = true :=
  ⟨Fasta.Hist.fitting_never_grows_history inp cap hcap pol hpol script hs chunk ops hplain hfit,
   Fasta.Hist.fitting_history_accepted inp cap hcap pol hpol script hs chunk ops hplain hfit⟩

/-- FASTQ record-set reads: chain of requests, buffer-limit iff refused, and for plain set reads every
request is made while the first group of the batch does not fit -/
theorem fastq_set_read_growth (inp : List UInt8) (G : Prop) (fuel : Nat) (r : Fastq.Reader) (rs : Fastq.RecordSet)
    (n : Option Nat) (its : List Spec.FqItem) (hg : Fastq.Good inp G r its)
    (hfuel : 2 * r.br.src.inp.length + 4 ≤ fuel) :
    ∃ new b, (Fastq.readRecordSetExact fuel r rs n).1.log = r.log ++ new ∧
      Fastq.GrowLog r.br.cap new (Fastq.readRecordSetExact fuel r rs n).1.br.cap b ∧
      ((Fastq.readRecordSetExact fuel r rs n).2.2 = .err .bufferLimit ↔ b = true) ∧
      (n = none → ∀ c a, (c, a) ∈ new → ¬ Fastq.Fits (inp.drop (Fastq.nextByte r)) c) := by
  obtain ⟨new, b, h1, h2, h3, h4, _⟩ := Fastq.set_growth_log inp G fuel r rs n its hg hfuel
  exact ⟨new, b, h1, h2, h3, h4⟩

/-- FASTQ: input whose groups all fit never causes growth under ANY history of single reads, owned reads,
plain record-set reads, set iteration and position queries -/
theorem fastq_fitting_never_grows_any_history (inp : List UInt8) (cap : Nat) (hcap : 3 ≤ cap) (pol : Pol)
    (hwf : Fastq.PolWf1 pol) (script : List ReadEv) (hs : NoFail script) (chunk : Nat)
    (hfit : Fastq.AllFit inp cap) (ops : List Fastq.Hist.Op) (hops : ∀ op ∈ ops, Fastq.plainOp op = true) :
    (Fastq.runEnd (Fastq.Hist.mkM inp cap pol script chunk) ops).r.log = [] ∧
      (Fastq.runEnd (Fastq.Hist.mkM inp cap pol script chunk) ops).r.br.cap = cap :=
  Fastq.fitting_never_grows_history inp cap hcap pol hwf script hs chunk hfit ops hops

end SeqIo.Thm.C09
