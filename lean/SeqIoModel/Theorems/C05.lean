import SeqIoModel.Proofs.FastaStream
import SeqIoModel.Proofs.FastqStream
import SeqIoModel.Proofs.FastaHistory
import SeqIoModel.Proofs.FastqHistorySeek
import SeqIoModel.Proofs.FastaSeekAfterFault
import SeqIoModel.Proofs.FastqSeekAfterFault
/-!
# C05 – positions are true file coordinates and seeking to one restores the stream

Position part: `Fasta.Obs.record h ls line byte` / `Fastq.Obs.record h s q line byte` carry what
`position()` reports right after the record was returned; the stream theorems say these are S's
`line` and `byte`, i.e. the true 1-based line number and byte offset in the input, for every capacity,
policy and chunking.  The seek part comes from the history proofs (`Proofs/FastaHistory.lean`,
`Proofs/FastqHistorySeek.lean`), seeks from states left behind by failures from
`Proofs/FastaSeekAfterFault.lean` and `Proofs/FastqSeekAfterFault.lean`.
-/

namespace SeqIo.Thm.C05
open SeqIo SeqIo.FillProofs

/-- FASTA: the position reported after each record is its true location (S's coordinates), the same
for every buffer capacity, policy (incl. `StdPolicy`) and chunking -/
theorem fasta_positions_true (inp : List UInt8) (cap : Nat) (hcap : 3 ≤ cap) (pol : Pol) (hpol : Fasta.PolGrows pol)
    (script : List ReadEv) (hs : NoFail script) (chunk : Nat) (k : Nat) :
    Fasta.runNexts k (Fasta.mkReader inp cap pol script chunk) =
      (Fasta.specObs inp ++ List.replicate k Fasta.Obs.none).take k :=
  Fasta.fasta_next_stream_polGrows inp cap hcap pol hpol script hs chunk k

/-- FASTQ: the same -/
theorem fastq_positions_true (inp : List UInt8) (cap : Nat) (hcap : 3 ≤ cap) (pol : Pol) (hpol : Fastq.PolGrows pol)
    (script : List ReadEv) (hs : NoFail script) (chunk : Nat) (k : Nat) :
    Fastq.runNexts k (Fastq.mkReader inp cap pol script chunk) =
      (Fastq.specObs inp ++ List.replicate k Fastq.Obs.none).take k :=
  Fastq.fastq_next_stream_polGrows inp cap hcap pol hpol script hs chunk k

/-- S's coordinates on an input with leading blank lines (the case of finding D1):
record `a` starts at byte 5 on line 6 -/
example : Fasta.specObs [10, 10, 10, 10, 10, 62, 97, 10, 65, 67, 10] = [.record [97] [[65, 67]] 6 5] := by decide

/-- FASTA, seek part: in the abstract reader `seekRec i` sets the cursor to record `i`, `pos` after a
record must be its true coordinates and after a set read (if reported) those of the next unread
record; every history with seeks from any reader state – target inside the buffer or not – is
accepted, i.e. after a seek the reads return record `i` and then the rest exactly as sequential
reading does. -/
theorem fasta_seek_restores_stream (inp : List UInt8) (cap : Nat) (hcap : 3 ≤ cap) (pol : Pol)
    (hpol : Fasta.PolGrows pol) (script : List ReadEv) (hs : NoFail script) (chunk : Nat)
    (ops : List Fasta.Hist.Op) :
    Fasta.Hist.runA (Fasta.Hist.items inp) Fasta.Hist.aInit ops
      (Fasta.Hist.runM (Fasta.Hist.mkMSt inp cap pol script chunk) ops) = true :=
  Fasta.Hist.fasta_history_accepted inp cap hcap pol hpol script hs chunk ops

/-- FASTQ, seek part: `seekItem i` sets the abstract cursor to item `i` – a record, or the invalid group,
whose error is then reproduced by the next read; `pos` after a seek is the target, after a record its
true coordinates, after a set read those of the next unread record -/
theorem fastq_seek_restores_stream (inp : List UInt8) (cap : Nat) (hcap : 3 ≤ cap) (pol : Pol)
    (hpol : Fastq.PolGrows pol) (script : List ReadEv) (hs : NoFail script) (chunk : Nat)
    (ops : List Fastq.Hist.Op) (hops : ∀ op ∈ ops, op.wf = true) :
    Fastq.Hist.accepted inp (Fastq.Hist.mkM inp cap pol script chunk) ops = true :=
  Fastq.fastq_history_accepted inp cap hcap pol hpol script hs chunk ops hops

/-! ## "from any reader state": also from states left behind by source failures

`fasta/fastq_seek_restores_stream` quantify over histories on failure-free sources.  The following two theorems
remove that restriction for the state the seek starts from: `s` is the state after ANY history `ops` under ANY
read script (failures of any kind at any call, interrupted reads), scripted seek failures and (FASTA) a policy that
may refuse – possibly a state in which the last call returned an error.  If the seek to the position of item `i`
then succeeds and the source does not fail any more, the following reads show exactly what sequential reading shows
from item `i` on (records with their positions, the error of an invalid FASTQ group, end of input). -/

theorem fasta_seek_restores_after_faults
    (inp : List UInt8) (cap : Nat) (hcap : 3 ≤ cap) (pol : Pol) (hpol : Fasta.PolWfPos pol) (hgrow : Fasta.PolGrows pol)
    (script : List ReadEv) (chunk : Nat) (seekFails : List (Nat × IoKind)) (ops : List Fasta.Hist.Op)
    (i : Nat) (hi : i < (Fasta.Hist.items inp).recs.length) :
    let s := Fasta.Hist.runMSt (Fasta.Hist.mkMStF inp cap pol script chunk seekFails) ops
    let rc := (Fasta.Hist.items inp).recs[i]
    ∀ r', Fasta.seek s.r rc.line rc.byte = (r', .ok ()) →
      NoFail r'.br.src.script →
      ∀ k, Fasta.runNexts k r' = ((Fasta.specObs inp).drop i ++ List.replicate k Fasta.Obs.none).take k :=
  Fasta.fasta_seek_restores_after_faults inp cap hcap pol hpol hgrow script chunk seekFails ops i hi

theorem fastq_seek_restores_after_faults
    (inp : List UInt8) (cap : Nat) (hcap : 3 ≤ cap) (pol : Pol) (hgrow : Fastq.PolGrows pol)
    (script : List ReadEv) (chunk : Nat) (seekFails : List (Nat × IoKind)) (ops : List Fastq.Hist.Op)
    (hops : ∀ op ∈ ops, op.wf = true) (i : Nat) (hi : i < (Spec.fastq inp).length) :
    let s := Fastq.Hist.runMSt (Fastq.Hist.mkM inp cap pol script chunk seekFails) ops
    let it := (Spec.fastq inp)[i]
    ∀ r', Fastq.seek s.r (Fastq.Hist.itemPos it).1 (Fastq.Hist.itemPos it).2 = (r', .ok ()) →
      NoFail r'.br.src.script →
      ∀ k, Fastq.runNexts k r' = ((Fastq.specObs inp).drop i ++ List.replicate k Fastq.Obs.none).take k :=
  Fastq.fastq_seek_restores_after_faults inp cap hcap pol hgrow script chunk seekFails ops hops i hi

end SeqIo.Thm.C05
