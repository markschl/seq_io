import SeqIoModel.Proofs.ParallelInvariants
import SeqIoModel.Proofs.FastaHistory
import SeqIoModel.Proofs.AbstractReader
import SeqIoModel.Proofs.FastqHistorySeek
/-!
# C07 – parallel processing delivers every record set exactly once with its own result

Theorems about the protocol model `Model/Parallel.lean` (transition system of `read_parallel_init`;
every interleaving of main thread, reader thread and pool workers is a path of `step`), for every
thread count `T ≥ 1`, queue length `Q ≥ 1` and number of batches `N`, with no bound on any of them.
The recorded traces of the real code are accepted by this model on every run (correspondence).
-/

namespace SeqIo.Thm.C07
open SeqIo SeqIo.Par

/-- no batch reaches the consumer twice, and only batches the reader produced; the consumer's count of
results is the number of delivered batches -/
theorem delivered_exactly_once (c : Cfg) (s : St) (hT : 0 < c.T) (hQ : 0 < c.Q) (h : Reach c s) :
    (s.delivered.map (·.2)).Nodup ∧ (∀ b ∈ s.delivered.map (·.2), b < s.filled) ∧ s.got = s.delivered.length :=
  ⟨(delivered_nodup c s hT hQ h).1, (delivered_nodup c s hT hQ h).2, got_eq_delivered c s hT hQ h⟩

/-- while the consumer is draining, nothing is lost: every batch read so far has been delivered or is
still in flight (queued, being worked on, being sent, or in the result channel) -/
theorem nothing_lost (c : Cfg) (s : St) (hT : 0 < c.T) (hQ : 0 < c.Q) (h : Reach c s)
    (hD : Drains c) (hca : s.consumerAlive = true) :
    s.got + cnt Msg.isRes s.doneCh + s.jobs.length + s.working.length + s.sending.length = s.filled :=
  no_batch_lost c s hT hQ h hD hca

/-- a consumer that drains the results has received all `N` batches (hence, with `delivered_exactly_once`,
each exactly once) and the end marker when the call returns – in every interleaving -/
theorem drained_complete (c : Cfg) (s : St) (hT : 0 < c.T) (hQ : 0 < c.Q) (h : Reach c s)
    (hf : s.mn = .returned) (h1 : c.stopAfter = none) (h2 : c.readerInitFails = false)
    (h3 : c.dsInitFailAt = none) (h4 : c.endErr = false ∨ c.contAfterErr = true) :
    s.got = c.N ∧ s.finSeen = true ∧ (c.endErr = true → s.errsSeen = 1) :=
  drained_gets_all c s hT hQ h hf h1 h2 h3 h4

/-- with a single worker thread the batches arrive in file order -/
theorem single_worker_in_order (c : Cfg) (s : St) (hT : 0 < c.T) (hQ : 0 < c.Q) (h : Reach c s)
    (h1 : c.T = 1) : s.delivered.map (·.2) = List.range s.got :=
  in_order_T1 c s hT hQ h h1

/-- every data set is in at most one place (channel, reader, pool, result message, consumer) – a
result message therefore carries the data set its worker was given, and with it that batch -/
theorem data_set_in_one_place (c : Cfg) (s : St) (hT : 0 < c.T) (hQ : 0 < c.Q) (h : Reach c s) (d : Nat) :
    dsCount s d ≤ 1 ∧ (s.dsCalls ≤ d → dsCount s d = 0) :=
  ds_conserved c s hT hQ h d

/-- the recycled per-record output vector (`parallel_fasta` / `parallel_fastq`): whatever its previous
length, the consumer sees record `i` paired with the output computed for record `i` -/
theorem per_record_outputs {R D : Type} (work : R → D → D) (initD : D) (out : List D) (recs : List R) :
    consumerZip recs (recycleZip work initD out recs) =
      (recs.zipIdx).map (fun p => (p.1, work p.1 ((out[p.2]?).getD initD))) ∧
    recs.length ≤ (recycleZip work initD out recs).length :=
  ⟨consumerZip_spec work initD out recs, recycleZip_length work initD out recs⟩

/-- Link from record sets to records: `fill_data` of a FASTA reader is `read_record_set`; the batches
it produces (any number of calls) are consecutive segments of S's records – concatenated they are
exactly the first records of the input, in order, each once.  Together with `delivered_exactly_once`
and `drained_complete` (every batch reaches a draining consumer exactly once): every record of the
input reaches the consumer exactly once, with the records inside a set in file order. -/
theorem fasta_batches_partition_records (inp : List UInt8) (cap : Nat) (hcap : 3 ≤ cap) (pol : Pol)
    (hpol : SeqIo.Fasta.PolGrows pol) (script : List SeqIo.ReadEv) (hs : SeqIo.FillProofs.NoFail script)
    (chunk n : Nat) :
    SeqIo.Fasta.Hist.deliveredRecs (SeqIo.Fasta.Hist.items inp) SeqIo.Fasta.Hist.aInit
        (List.replicate n (SeqIo.Fasta.Hist.Op.set 0 none))
        (SeqIo.Fasta.Hist.runM (SeqIo.Fasta.Hist.mkMSt inp cap pol script chunk)
          (List.replicate n (SeqIo.Fasta.Hist.Op.set 0 none))) =
      ((SeqIo.Fasta.Hist.items inp).recs.take
        (SeqIo.Fasta.Hist.deliveredCounts (List.replicate n (SeqIo.Fasta.Hist.Op.set 0 none))
          (SeqIo.Fasta.Hist.runM (SeqIo.Fasta.Hist.mkMSt inp cap pol script chunk)
            (List.replicate n (SeqIo.Fasta.Hist.Op.set 0 none))))).map SeqIo.Fasta.Hist.view := by
  have hns : SeqIo.Fasta.Hist.SeekFree (List.replicate n (SeqIo.Fasta.Hist.Op.set 0 none)) := by
    intro op hop
    rw [List.eq_of_mem_replicate hop]
    rfl
  obtain ⟨a', _, _, h3⟩ := SeqIo.Fasta.Hist.runA_delivers hns
    (SeqIo.Fasta.Hist.fasta_history_accepted inp cap hcap pol hpol script hs chunk _)
  simpa [SeqIo.Fasta.Hist.aInit] using h3

/-- The same link for FASTQ: as long as no error is observed, the batches produced by repeated
`read_record_set` calls are, concatenated, exactly the first items of S – all of them records –
in order, each once (when the input contains an invalid record the batches stop before it and its
error follows: `C04.fastq_all_histories_accepted`, `C15`). -/
theorem fastq_batches_partition_records (inp : List UInt8) (cap : Nat) (hcap : 3 ≤ cap) (pol : Pol)
    (hpol : SeqIo.Fastq.PolGrows pol) (script : List SeqIo.ReadEv) (hs : SeqIo.FillProofs.NoFail script)
    (chunk n : Nat)
    (hne : SeqIo.Fastq.Hist.NoErrObs
      (SeqIo.Fastq.Hist.runM (SeqIo.Fastq.Hist.mkM inp cap pol script chunk)
        (List.replicate n (SeqIo.Fastq.Hist.Op.set 0 none)))) :
    SeqIo.Fastq.Hist.IsSegment (SeqIo.Spec.fastq inp) 0
      (SeqIo.Fastq.Hist.deliveredCounts (List.replicate n (SeqIo.Fastq.Hist.Op.set 0 none))
        (SeqIo.Fastq.Hist.runM (SeqIo.Fastq.Hist.mkM inp cap pol script chunk)
          (List.replicate n (SeqIo.Fastq.Hist.Op.set 0 none))))
      (SeqIo.Fastq.Hist.deliveredRecs (SeqIo.Spec.fastq inp) {}
        (List.replicate n (SeqIo.Fastq.Hist.Op.set 0 none))
        (SeqIo.Fastq.Hist.runM (SeqIo.Fastq.Hist.mkM inp cap pol script chunk)
          (List.replicate n (SeqIo.Fastq.Hist.Op.set 0 none)))) := by
  have hns : SeqIo.Fastq.Hist.SeekFree (List.replicate n (SeqIo.Fastq.Hist.Op.set 0 none)) := by
    intro op hop
    rw [List.eq_of_mem_replicate hop]
    rfl
  have hwf : ∀ op ∈ List.replicate n (SeqIo.Fastq.Hist.Op.set 0 none), op.wf = true := by
    intro op hop
    rw [List.eq_of_mem_replicate hop]
    rfl
  obtain ⟨a', _, _, h3⟩ := SeqIo.Fastq.Hist.acceptsA_delivers hns hne
    (SeqIo.Fastq.fastq_history_accepted inp cap hcap pol hpol script hs chunk _ hwf)
  simpa using h3

/-- non-vacuity: a concrete schedule of a two-worker configuration reaches a state with a delivery -/
def exampleCfg : Cfg :=
  { T := 2, Q := 1, N := 1, endErr := false, readerInitFails := false, dsInitFailAt := none, stopAfter := none }

example : (runSched exampleCfg init
      [.main, .main, .reader, .reader, .reader, .workerTake, .workerFinish 0, .workerSend 0, .main]).map (·.delivered)
      = some [(0, 0)] := by decide

end SeqIo.Thm.C07
