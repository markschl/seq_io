import SeqIoModel.Proofs.Iterators
import SeqIoModel.Proofs.FastaStream
import SeqIoModel.Proofs.FastqStream
/-!
# C20 – iterators obey the iterator contracts at every step

`SeqLinesIt` mirrors `Zip<slice::Iter<usize>, Skip<slice::Iter<usize>>>` step by step (what `SeqLines`
wraps; since the repair of finding D2 its `len` is that of the inner iterator); the proofs are in
`Proofs/Iterators.lean`.  The record-set iterators (`slice::Iter` + `Take`) are modelled here as a forward
cursor over the stored positions, the owned-record iterators as repeated `Reader::next`, whose stream is
S's (`fasta_next_stream_polGrows`, `fastq_next_stream_polGrows`).
-/

namespace SeqIo.Thm.C20
open SeqIo SeqIo.Fasta SeqIo.IterProofs

/-- After ANY sequence of front/back steps the iterator has yielded exactly what a double-ended
queue over the record's lines yields, the items still to come are the queue's remainder, and the
exact length it reports is the number of items still to come. -/
theorem seq_lines_deque (bp : BufPos) (steps : List Step) :
    (runIt (SeqLinesIt.mk' bp) steps).2 = (runList (bp.seqPos.zip (bp.seqPos.drop 1)) steps).2 ∧
    items (runIt (SeqLinesIt.mk' bp) steps).1 = (runList (bp.seqPos.zip (bp.seqPos.drop 1)) steps).1 ∧
    (runIt (SeqLinesIt.mk' bp) steps).1.len = (runList (bp.seqPos.zip (bp.seqPos.drop 1)) steps).1.length :=
  run_deque bp steps

/-- fused: once the end has been reported from either side, every further step reports the end -/
theorem seq_lines_fused (bp : BufPos) (steps : List Step) (s s' : Step)
    (h : (stepIt (runIt (SeqLinesIt.mk' bp) steps).1 s).2 = none) :
    (stepIt (stepIt (runIt (SeqLinesIt.mk' bp) steps).1 s).1 s').2 = none :=
  fused bp steps s s' h

/-- consuming from the front yields every line exactly once, in order -/
theorem seq_lines_exhaust_front (bp : BufPos) :
    ((runIt (SeqLinesIt.mk' bp) (List.replicate (bp.seqPos.length) Step.front)).2.filterMap id)
      = bp.seqPos.zip (bp.seqPos.drop 1) :=
  exhaust_front bp

/-- consuming from the back yields every line exactly once, in reverse order -/
theorem seq_lines_exhaust_back (bp : BufPos) :
    ((runIt (SeqLinesIt.mk' bp) (List.replicate (bp.seqPos.length) Step.back)).2.filterMap id)
      = (bp.seqPos.zip (bp.seqPos.drop 1)).reverse :=
  exhaust_back bp

/-- the reported length is the number of remaining items in every state (finding D2: before its
repair the crate kept a stored length that was never decremented) -/
theorem seq_lines_len (it : SeqLinesIt) : it.len = (items it).length := len_eq it

/-- non-vacuity: three lines, mixed steps -/
example : (runIt (SeqLinesIt.mk' ⟨0, [3, 8, 12, 20]⟩) [.front, .back, .back, .front]).2
    = [some (3, 8), some (12, 20), some (8, 12), none] := by decide

/-- in `(l ++ d, d, d, …).take k` with `d ∉ l`, once `d` appears it stays -/
theorem take_append_replicate_fused {α : Type} (l : List α) (d : α) (hd : d ∉ l) (k i j : Nat)
    (hij : i ≤ j) (hj : j < k) (hi : ((l ++ List.replicate k d).take k)[i]? = some d) :
    ((l ++ List.replicate k d).take k)[j]? = some d := by
  have hik : i < k := by omega
  rw [List.getElem?_take_of_lt hik] at hi
  rw [List.getElem?_take_of_lt hj]
  by_cases hil : i < l.length
  · rw [List.getElem?_append_left hil] at hi
    exact absurd (List.mem_of_getElem? hi) hd
  · have hjl : l.length ≤ j := by omega
    rw [List.getElem?_append_right hjl]
    rw [List.getElem?_replicate]
    have : j - l.length < k := by omega
    simp [this]

/-- the owned-record iterators (`records()`, `into_records()`: `Reader::next` mapped to an owned copy) are
fused: once a FASTA reader has reported the end, every later call reports the end – for every input,
capacity, growing policy and chunking -/
theorem fasta_records_iter_fused (inp : List UInt8) (cap : Nat) (hcap : 3 ≤ cap) (pol : Pol)
    (hpol : Fasta.PolGrows pol) (script : List ReadEv) (hs : FillProofs.NoFail script) (chunk : Nat)
    (k i j : Nat) (hij : i ≤ j) (hj : j < k)
    (hi : (Fasta.runNexts k (Fasta.mkReader inp cap pol script chunk))[i]? = some Fasta.Obs.none) :
    (Fasta.runNexts k (Fasta.mkReader inp cap pol script chunk))[j]? = some Fasta.Obs.none := by
  rw [Fasta.fasta_next_stream_polGrows inp cap hcap pol hpol script hs chunk k] at hi ⊢
  refine take_append_replicate_fused _ _ ?_ k i j hij hj hi
  unfold Fasta.specObs
  split <;> simp

/-- the same for the FASTQ reader -/
theorem fastq_records_iter_fused (inp : List UInt8) (cap : Nat) (hcap : 3 ≤ cap) (pol : Pol)
    (hpol : Fastq.PolGrows pol) (script : List ReadEv) (hs : FillProofs.NoFail script) (chunk : Nat)
    (k i j : Nat) (hij : i ≤ j) (hj : j < k)
    (hi : (Fastq.runNexts k (Fastq.mkReader inp cap pol script chunk))[i]? = some Fastq.Obs.none) :
    (Fastq.runNexts k (Fastq.mkReader inp cap pol script chunk))[j]? = some Fastq.Obs.none := by
  rw [Fastq.fastq_next_stream_polGrows inp cap hcap pol hpol script hs chunk k] at hi ⊢
  refine take_append_replicate_fused _ _ ?_ k i j hij hj hi
  unfold Fastq.specObs
  intro h
  obtain ⟨x, _, hx⟩ := List.mem_map.mp h
  split at hx <;> cases hx

/-! ## the record-set iterators: `slice::Iter` (+ `Take(npos)` for FASTA) over the stored positions -/

/-- forward cursor over a list – the model of `slice::Iter` as the record-set iterators use it -/
def cursorRun {α : Type} : List α → Nat → List (Option α)
  | _, 0 => []
  | [], k + 1 => none :: cursorRun [] k
  | x :: xs, k + 1 => some x :: cursorRun xs k

theorem take_replicate_succ {α : Type} (l : List α) (d : α) (k : Nat) :
    (l ++ List.replicate (k + 1) d).take k = (l ++ List.replicate k d).take k := by
  rw [List.replicate_succ', ← List.append_assoc]
  exact List.take_append_of_le_length (l₁ := l ++ List.replicate k d) (by simp)

theorem none_not_mem_map_some {α : Type} (l : List α) : (none : Option α) ∉ l.map some := by
  intro h
  obtain ⟨x, _, hx⟩ := List.mem_map.mp h
  cases hx

theorem cursorRun_eq {α : Type} (l : List α) (k : Nat) :
    cursorRun l k = (l.map some ++ List.replicate k none).take k := by
  induction k generalizing l with
  | zero => simp [cursorRun]
  | succ k ih =>
    cases l with
    | nil =>
      simp only [cursorRun, ih, List.map_nil, List.nil_append, List.take_replicate, Nat.min_self]
      rfl
    | cons x xs =>
      simp only [cursorRun, ih, List.map_cons, List.cons_append, List.take_succ_cons]
      rw [take_replicate_succ]

/-- Iterating over a FASTA record set shows exactly the first `npos` stored positions (stale positions
of an earlier, larger batch are never shown), each once, in order, and then reports the end for
ever. -/
theorem fasta_record_set_iter_contract (rs : Fasta.RecordSet) (k : Nat) :
    cursorRun (rs.positions.take rs.npos) k =
      ((rs.positions.take rs.npos).map some ++ List.replicate k none).take k ∧
    (∀ i j, i ≤ j → j < k → (cursorRun (rs.positions.take rs.npos) k)[i]? = some none →
      (cursorRun (rs.positions.take rs.npos) k)[j]? = some none) := by
  refine ⟨cursorRun_eq _ k, ?_⟩
  intro i j hij hj hi
  rw [cursorRun_eq] at hi ⊢
  exact take_append_replicate_fused _ none (none_not_mem_map_some _) k i j hij hj hi

/-- FASTQ record sets: the same over all stored positions -/
theorem fastq_record_set_iter_contract (rs : Fastq.RecordSet) (k : Nat) :
    cursorRun rs.positions k = (rs.positions.map some ++ List.replicate k none).take k ∧
    (∀ i j, i ≤ j → j < k → (cursorRun rs.positions k)[i]? = some none →
      (cursorRun rs.positions k)[j]? = some none) := by
  refine ⟨cursorRun_eq _ k, ?_⟩
  intro i j hij hj hi
  rw [cursorRun_eq] at hi ⊢
  exact take_append_replicate_fused _ none (none_not_mem_map_some _) k i j hij hj hi

example : cursorRun [1, 2] 4 = [some 1, some 2, none, none] := by decide

end SeqIo.Thm.C20
