import SeqIoModel.Proofs.ParallelTermination
import SeqIoModel.Proofs.ParallelInvariants
/-!
# C08 – parallel processing always terminates, also on early exit and errors

For every thread count, queue length, number of batches, consumer plan (`stopAfter = none`: drain;
`some k`: return after `k` results, `some 0`: never ask; continue or stop after an error), reader
error, reader-init failure and data-set-init failure at any call (all are fields of `Cfg`, all
universally quantified).
-/

namespace SeqIo.Thm.C08
open SeqIo.Par

/-- every step of every thread lowers the potential: no interleaving runs forever -/
theorem every_step_decreases (c : Cfg) (s s' : St) (t : Tid) (h : step c s t = some s') :
    pot c s' < pot c s :=
  step_decreases c s s' t h

/-- explicit bound on the length of every schedule from the initial state -/
theorem schedule_length_bounded (c : Cfg) (s : St) (ts : List Tid) (h : runSched c init ts = some s) :
    ts.length ≤ 8 * c.N + 2 * c.Q + 15 :=
  sched_bounded_init c s ts h

/-- no deadlock: in every reachable state in which the call has not returned some thread can move -/
theorem no_deadlock (c : Cfg) (s : St) (hT : 0 < c.T) (hQ : 0 < c.Q) (h : Reach c s)
    (hnf : s.mn ≠ .returned) : ∃ t s', step c s t = some s' :=
  progress c s hT hQ h hnf

/-- hence every maximal schedule ends with the call having returned – and by then the reader thread
has exited (the main thread only returns from `joining` when `rd = exited`) -/
theorem always_returns (c : Cfg) (ts : List Tid) (s : St) (hT : 0 < c.T) (hQ : 0 < c.Q)
    (hrun : runSched c init ts = some s) (hmax : ∀ t, step c s t = none) : s.mn = .returned :=
  SeqIo.Par.always_returns c ts s hT hQ hrun hmax

/-- The hypothesis `0 < c.Q` of `no_deadlock` / `always_returns` cannot be dropped – and the code agrees (finding D17):
with queue length 0, a reader that starts and a consumer that asks for a result, two steps lead to a state in which the
call has not returned and no thread can move.  The main thread's fill loop runs zero times, so the reader never gets a
data set to fill; the consumer waits for a result that cannot come.  (`parallel_fasta(rdr, 2, 0, ..)` on two records
does not come back.) -/
theorem queue_len_zero_deadlocks (c : Cfg) (hQ : c.Q = 0) (hri : c.readerInitFails = false)
    (hds : c.dsInitFailAt = none) (hstop : c.stopAfter ≠ some 0) :
    ∃ ts s, runSched c init ts = some s ∧ s.mn ≠ .returned ∧ ∀ t, step c s t = none := by
  refine ⟨[.main, .reader], { (init : St) with dsCalls := 1, cur := some 0, mn := .recvDone, rd := .recvEmpty }, ?_, ?_, ?_⟩
  · simp [runSched, step, init, hQ, hri, hds, afterResult, hstop]
  · simp
  · intro t
    cases t <;> simp [step, init, doneSenders, readerAlive] <;> decide

/-- two workers, queue length 0, two batches, a consumer that drains -/
def plainQueueZero : Cfg :=
  { T := 2, Q := 0, N := 2, endErr := false, readerInitFails := false, dsInitFailAt := none, stopAfter := none }

/-- the premises of `queue_len_zero_deadlocks` are met by a plain configuration -/
example : ∃ ts s, runSched plainQueueZero init ts = some s ∧ s.mn ≠ .returned ∧
    ∀ t, step plainQueueZero s t = none :=
  queue_len_zero_deadlocks plainQueueZero rfl rfl rfl (by simp [plainQueueZero])

end SeqIo.Thm.C08
