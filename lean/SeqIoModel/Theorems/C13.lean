import SeqIoModel.Proofs.Iterators
import SeqIoModel.Proofs.RawSeq
/-!
# C13 – all views of a record agree with each other

Line count, line iterator, owned sequence, id / description and their UTF-8 validity: computations on the
position list of one record (`Proofs/Iterators.lean`).  The raw sequence against the lines: for the
records `next()` actually returns (`Proofs/RawSeq.lean`).
-/

namespace SeqIo.Thm.C13
open SeqIo SeqIo.Fasta SeqIo.IterProofs

/-- the number of lines equals the length of the line iterator … -/
theorem num_lines_eq_iter_len (bp : BufPos) : numSeqLines bp = (SeqLinesIt.mk' bp).len :=
  numSeqLines_eq_items bp

/-- … and the number of lines the iteration actually yields -/
theorem num_lines_eq_lines (buf : List UInt8) (bp : BufPos) : numSeqLines bp = (seqLines buf bp).length :=
  numSeqLines_eq buf bp

/-- the owned sequence is the concatenation of the sequence lines -/
theorem owned_eq_lines_concat (buf : List UInt8) (bp : BufPos) (ls : List (List UInt8))
    (h : allSome (seqLines buf bp) = some ls) : ownedSeq buf bp = some ls.flatten :=
  ownedSeq_eq_flatten buf bp ls h

/-- with a single line the raw sequence is that line: `full_seq` may borrow it -/
theorem single_line_borrowable (buf : List UInt8) (bp : BufPos) (l : List UInt8)
    (h : allSome (seqLines buf bp) = some [l]) : seqRaw buf bp = some l :=
  single_line_raw buf bp l h

/-- id = header up to the first space, description = the rest -/
theorem id_desc_split (h : List UInt8) :
    idBytes h ++ (match descBytes h with | some d => SP :: d | none => []) = h ∧
    SP ∉ idBytes h ∧ (descBytes h = none ↔ SP ∉ h) :=
  ⟨id_desc_join h, id_no_space h, desc_none_iff h⟩

/-- the text accessors agree: the whole header is valid UTF-8 exactly when id and description
are (`id_desc()` validates the header, `id()` / `desc()` validate the parts) -/
theorem utf8_header_iff_parts (h : List UInt8) :
    validUtf8 h = (validUtf8 (idBytes h) && (match descBytes h with | some d => validUtf8 d | none => true)) :=
  validUtf8_id_desc h

example : idBytes [97, 98, 32, 99, 100, 32, 101] = [97, 98] ∧
    descBytes [97, 98, 32, 99, 100, 32, 101] = some [99, 100, 32, 101] := by decide

/-- the raw sequence differs from the lines only by line terminators (for every record `next()` returns,
at every capacity): there are LF-free raw lines such that the sequence lines are these with one final CR
removed each, and the raw sequence is these joined by LF with one final CR removed.
`InvR inp r rest` (`Proofs/FastaStream.lean`): `r` is a state between `next()` calls on `inp`, `rest` what S
still prescribes for the calls to come. -/
theorem raw_is_lines_joined {inp : List UInt8} {r r' : Reader} {rest : List Obs} {fuel : Nat}
    (h : InvR inp r rest) (hfuel : inp.length < fuel) (hn : next fuel r = (r', .ok true)) :
    ∃ rawLines : List (List UInt8),
      allSome (seqLines r'.br.buf r'.bp) = some (rawLines.map trimCr) ∧
      seqRaw r'.br.buf r'.bp = some (trimCr (Raw.joinLF rawLines)) ∧
      ∀ l ∈ rawLines, LF ∉ l :=
  Raw.next_raw_eq_join h hfuel hn

/-- … hence deleting LF and CR bytes from the raw sequence and from the owned sequence gives the same -/
theorem raw_and_owned_differ_by_terminators {inp : List UInt8} {r r' : Reader} {rest : List Obs} {fuel : Nat}
    (h : InvR inp r rest) (hfuel : inp.length < fuel) (hn : next fuel r = (r', .ok true)) :
    ∃ raw owned, seqRaw r'.br.buf r'.bp = some raw ∧ ownedSeq r'.br.buf r'.bp = some owned ∧
      raw.filter (fun b => decide (b ≠ LF ∧ b ≠ CR)) = owned.filter (fun b => decide (b ≠ LF ∧ b ≠ CR)) :=
  Raw.next_raw_filter_eq h hfuel hn

end SeqIo.Thm.C13
