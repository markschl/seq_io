import SeqIoModel.Proofs.FastaStream
import SeqIoModel.Proofs.FastqStream
import SeqIoModel.Proofs.FastaHistory
import SeqIoModel.Proofs.FastqHistorySeek
import SeqIoModel.Proofs.AbstractReader
import SeqIoModel.Proofs.SetIndependence
/-!
# C04 – all ways of reading one reader deliver the same records exactly once

`Model/History.lean` defines the history-level machine (`Hist.stepM`: reader plus three live record
sets, operations next / owned / set j (plain or exact n) / dump j / pos / seekRec i) and the abstract
reader A (`Hist.acceptA`: a cursor into S's records; a plain set read may deliver any m ≥ 1 records,
an exact read exactly min n remaining, end of input only when nothing is left, sets are snapshots).
EVERY finite history on every input, capacity, growing policy and chunking is accepted by A
(`Proofs/FastaHistory.lean`, `Proofs/FastqHistorySeek.lean`); what acceptance means for the caller is
spelt out in `Proofs/AbstractReader.lean`; that a set read does not depend on what the set held before,
in `Proofs/SetIndependence.lean`.
-/

namespace SeqIo.Thm.C04
open SeqIo SeqIo.FillProofs

/-- single reads: `k` calls of `next()` show S's records, each once and in order, then the end – for
every capacity ≥ 3, policy that grows (the default one included), failure-free read script and chunking -/
theorem fasta_single_reads_exactly_once (inp : List UInt8) (cap : Nat) (hcap : 3 ≤ cap) (pol : Pol)
    (hpol : Fasta.PolGrows pol) (script : List ReadEv) (hs : NoFail script) (chunk : Nat) (k : Nat) :
    Fasta.runNexts k (Fasta.mkReader inp cap pol script chunk) =
      (Fasta.specObs inp ++ List.replicate k Fasta.Obs.none).take k :=
  Fasta.fasta_next_stream_polGrows inp cap hcap pol hpol script hs chunk k

/-- FASTQ: the same, with S's first error between the records and the end -/
theorem fastq_single_reads_exactly_once (inp : List UInt8) (cap : Nat) (hcap : 3 ≤ cap) (pol : Pol)
    (hpol : Fastq.PolGrows pol) (script : List ReadEv) (hs : NoFail script) (chunk : Nat) (k : Nat) :
    Fastq.runNexts k (Fastq.mkReader inp cap pol script chunk) =
      (Fastq.specObs inp ++ List.replicate k Fastq.Obs.none).take k :=
  Fastq.fastq_next_stream_polGrows inp cap hcap pol hpol script hs chunk k

/-- FASTA: every history of single reads, owned reads, record-set reads, exact-count reads, set
iteration, position queries and seeks to record positions is accepted by the abstract reader -/
theorem fasta_all_histories_accepted (inp : List UInt8) (cap : Nat) (hcap : 3 ≤ cap) (pol : Pol)
    (hpol : Fasta.PolGrows pol) (script : List ReadEv) (hs : NoFail script) (chunk : Nat)
    (ops : List Fasta.Hist.Op) :
    Fasta.Hist.runA (Fasta.Hist.items inp) Fasta.Hist.aInit ops
      (Fasta.Hist.runM (Fasta.Hist.mkMSt inp cap pol script chunk) ops) = true :=
  Fasta.Hist.fasta_history_accepted inp cap hcap pol hpol script hs chunk ops

/-- … in particular with the crate's default policy -/
theorem fasta_all_histories_accepted_std (inp : List UInt8) (cap : Nat) (hcap : 3 ≤ cap)
    (script : List ReadEv) (hs : NoFail script) (chunk : Nat) (ops : List Fasta.Hist.Op) :
    Fasta.Hist.runA (Fasta.Hist.items inp) Fasta.Hist.aInit ops
      (Fasta.Hist.runM (Fasta.Hist.mkMSt inp cap PolDesc.std.toPol script chunk) ops) = true :=
  Fasta.Hist.fasta_history_accepted_std inp cap hcap script hs chunk ops

/-- FASTQ: every history (operations as the harness generates them: set indices 0-2, exact counts ≥ 1)
of single reads, owned reads, record-set reads, exact-count reads, set iteration, position queries and
seeks to the position of any item – a record or the invalid group – is accepted by the FASTQ abstract
reader (`Model/HistoryFq.lean`: if an invalid record lies ahead, set reads deliver only records that
precede it and then report its error; afterwards end of input) -/
theorem fastq_all_histories_accepted (inp : List UInt8) (cap : Nat) (hcap : 3 ≤ cap) (pol : Pol)
    (hpol : Fastq.PolGrows pol) (script : List ReadEv) (hs : NoFail script) (chunk : Nat)
    (ops : List Fastq.Hist.Op) (hops : ∀ op ∈ ops, op.wf = true) :
    Fastq.Hist.accepted inp (Fastq.Hist.mkM inp cap pol script chunk) ops = true :=
  Fastq.fastq_history_accepted inp cap hcap pol hpol script hs chunk ops hops

/-- What acceptance by the abstract reader MEANS (pure statement about A): along any accepted seek-free
history the records delivered – single reads, owned reads and batches – are, concatenated in order,
exactly the next `deliveredCounts` records of S from the starting cursor: a contiguous, in-order,
duplicate-free segment, nothing lost, nothing invented -/
theorem accepted_means_in_order_exactly_once {it : Fasta.Hist.Items} {a : Fasta.Hist.AState}
    {ops : List Fasta.Hist.Op} {obs : List Fasta.Hist.ObsH}
    (hns : Fasta.Hist.SeekFree ops) (h : Fasta.Hist.runA it a ops obs = true) :
    ∃ a', Fasta.Hist.execA it a ops obs = some a' ∧
      a'.k = a.k + Fasta.Hist.deliveredCounts ops obs ∧
      Fasta.Hist.deliveredRecs it a ops obs =
        ((it.recs.drop a.k).take (Fasta.Hist.deliveredCounts ops obs)).map Fasta.Hist.view :=
  Fasta.Hist.runA_delivers hns h

/-- End to end (FASTA): for every input, capacity, growing policy, chunking and seek-free history of
reads of all kinds, what the concrete machine delivers is exactly the first `deliveredCounts` records of
S, in order, each once -/
theorem fasta_reads_deliver_each_record_once (inp : List UInt8) (cap : Nat) (hcap : 3 ≤ cap) (pol : Pol)
    (hpol : Fasta.PolGrows pol) (script : List ReadEv) (hs : NoFail script) (chunk : Nat)
    (ops : List Fasta.Hist.Op) (hns : Fasta.Hist.SeekFree ops) :
    Fasta.Hist.deliveredRecs (Fasta.Hist.items inp) Fasta.Hist.aInit ops
        (Fasta.Hist.runM (Fasta.Hist.mkMSt inp cap pol script chunk) ops) =
      ((Fasta.Hist.items inp).recs.take
        (Fasta.Hist.deliveredCounts ops (Fasta.Hist.runM (Fasta.Hist.mkMSt inp cap pol script chunk) ops))).map
        Fasta.Hist.view := by
  obtain ⟨a', _, _, h3⟩ := Fasta.Hist.runA_delivers hns
    (Fasta.Hist.fasta_history_accepted inp cap hcap pol hpol script hs chunk ops)
  simpa [Fasta.Hist.aInit] using h3

/-- batch sizes: a successful plain set read yields at least one record; an exact-count read yields
exactly the requested number unless fewer remain, in which case all of those (pure statements about A) -/
theorem accepted_batch_sizes {it : Fasta.Hist.Items} {a a' : Fasta.Hist.AState} {j m : Nat} :
    (Fasta.Hist.acceptA it a (.set j none) (.batch m) = some a' →
      1 ≤ m ∧ m ≤ it.recs.length - a.k ∧ a'.k = a.k + m) ∧
    (∀ n, Fasta.Hist.acceptA it a (.set j (some n)) (.batch m) = some a' →
      1 ≤ n ∧ 1 ≤ m ∧ m = min n (it.recs.length - a.k) ∧ a'.k = a.k + m) :=
  ⟨Fasta.Hist.accepted_batch_sizes_plain, fun _ => Fasta.Hist.accepted_batch_sizes_exact⟩

/-- earlier filled sets stay unchanged: a dump of set `j` shows exactly the batch it was last filled
with, whatever was read in between (other sets, single reads, seeks) -/
theorem accepted_sets_are_snapshots {it : Fasta.Hist.Items} {a a' : Fasta.Hist.AState} {j m : Nat}
    {n : Option Nat} {mid : List Fasta.Hist.Op} {obsMid : List Fasta.Hist.ObsH} {l : List Fasta.Hist.RecView}
    (hlen : mid.length = obsMid.length) (hmid : ∀ n', Fasta.Hist.Op.set j n' ∉ mid)
    (h : Fasta.Hist.execA it a (.set j n :: (mid ++ [.dump j])) (.batch m :: (obsMid ++ [.dump l])) = some a') :
    l = ((it.recs.drop a.k).take m).map Fasta.Hist.view :=
  (Fasta.Hist.accepted_dump_snapshot hlen hmid h).1

/-- FASTQ: the same reading of acceptance – delivered records are a contiguous segment of S's items,
all of them records -/
theorem fastq_accepted_means_in_order_exactly_once {items : List Spec.FqItem} {a : Fastq.Hist.AState}
    {ops : List Fastq.Hist.Op} {obs : List Fastq.Hist.ObsH}
    (hns : Fastq.Hist.SeekFree ops) (hne : Fastq.Hist.NoErrObs obs)
    (h : Fastq.Hist.acceptsA items a ops obs = true) :
    ∃ a', Fastq.Hist.execA items a ops obs = some a' ∧
      a'.k = a.k + Fastq.Hist.deliveredCounts ops obs ∧
      Fastq.Hist.IsSegment items a.k (a.k + Fastq.Hist.deliveredCounts ops obs)
        (Fastq.Hist.deliveredRecs items a ops obs) :=
  Fastq.Hist.acceptsA_delivers hns hne h

/-! ## "a refilled record set contains only the new batch" – whatever the set held before, from whichever reader

A record set is a value of its own: it may have been filled by the same reader, by ANOTHER reader over another
input, or never.  What a set read does – the new reader state, the result and everything a caller can see of the set
afterwards – does not depend on the previous contents of the set (`Proofs/SetIndependence.lean`; the error clause is
exact: after an error both sets show nothing, except when a NEW reader fails in its very first fill, which happens
before the set is touched – then the set is left as it was). -/

theorem fasta_shared_set_shows_only_second_reader (f1 f2 : Nat) (r1 r2 : Fasta.Reader) (rs : Fasta.RecordSet)
    (n1 n2 : Option Nat)
    (hok : (Fasta.readRecordSetExact f2 r2 (Fasta.readRecordSetExact f1 r1 rs n1).2.1 n2).2.2 = .ok true) :
    Fasta.Hist.obsDump (Fasta.readRecordSetExact f2 r2 (Fasta.readRecordSetExact f1 r1 rs n1).2.1 n2).2.1 =
      Fasta.Hist.obsDump (Fasta.readRecordSetExact f2 r2 {} n2).2.1 :=
  (SetIndependence.Fa.fasta_shared_set_shows_only_second_reader f1 f2 r1 r2 rs n1 n2 hok).1

theorem fastq_shared_set_shows_only_second_reader (f1 f2 : Nat) (r1 r2 : Fastq.Reader) (rs : Fastq.RecordSet)
    (n1 n2 : Option Nat)
    (hok : (Fastq.readRecordSetExact f2 r2 (Fastq.readRecordSetExact f1 r1 rs n1).2.1 n2).2.2 = .ok true) :
    (Fastq.readRecordSetExact f2 r2 (Fastq.readRecordSetExact f1 r1 rs n1).2.1 n2).2.1 =
      (Fastq.readRecordSetExact f2 r2 {} n2).2.1 :=
  (SetIndependence.Fq.fastq_shared_set_shows_only_second_reader f1 f2 r1 r2 rs n1 n2 hok).1

end SeqIo.Thm.C04
