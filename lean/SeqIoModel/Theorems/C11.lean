import SeqIoModel.Proofs.WriteRoundtrip
import SeqIoModel.Proofs.EndToEnd
import SeqIoModel.Proofs.Unchanged
import SeqIoModel.Proofs.FastaUnchanged
/-!
# C11 – FASTQ writing round-trips; unchanged writing reproduces the input bytes

The FASTQ writer round trips through S; `write_unchanged` of the FASTQ machine (`Proofs/Unchanged.lean`) emits exactly the
record's extent in the input plus LF, for every capacity and chunking (M level), and concatenating
these outputs over a well-formed file reproduces the file up to a final terminator; the FASTA
counterpart is proved at the S level (extent = the record's lines) and at the M level
(`Proofs/FastaUnchanged.lean`: what `write_unchanged` of the FASTA machine emits, every configuration).
-/

namespace SeqIo.Thm.C11
open SeqIo SeqIo.Spec SeqIo.Write

/-- `fastq::write_to` / `Record::write`: header, sequence and quality parse back exactly -/
theorem fastq_write_roundtrip (h s q : List UInt8) (hh : HeadOk h) (hs : FieldOk s) (hq : FieldOk q)
    (hl : s.length = q.length) :
    Spec.fastq (Write.fqTo h s q) = [.record { byte := 0, line := 1, head := h, seq := s, qual := q }] :=
  WriteProofs.fastq_fqTo_roundtrip h s q hh hs hq hl

/-- many records written consecutively parse to the same list, without any error item -/
theorem fastq_write_many_roundtrip (rs : List (List UInt8 × List UInt8 × List UInt8))
    (hok : ∀ p ∈ rs, HeadOk p.1 ∧ FieldOk p.2.1 ∧ FieldOk p.2.2 ∧ p.2.1.length = p.2.2.length) :
    (Spec.fastq (rs.flatMap fun p => Write.fqTo p.1 p.2.1 p.2.2)).filterMap
        (fun it => match it with | .record r => some (r.head, r.seq, r.qual) | .err _ _ _ => none) = rs ∧
    (Spec.fastq (rs.flatMap fun p => Write.fqTo p.1 p.2.1 p.2.2)).length = rs.length :=
  WriteProofs.fastq_many_roundtrip rs hok

example : HeadOk [97, 32, 98] ∧ FieldOk [65, 67] ∧ FieldOk [73, 74] := by decide

/-- M level: after any successful `next()` the FASTQ machine's `write_unchanged` emits exactly the
record's original bytes (its four lines without the final LF, line endings included) plus LF.
`Fastq.Good inp G r items` (`Proofs/FastqStreamOutcome.lean`): `r` is a state between API calls on `inp`, `items`
what S prescribes for what lies ahead; what it says about the environment (no failing read or seek, a policy
that never refuses) it says under the proposition `G` only, so the statement holds with and without that. -/
theorem fastq_write_unchanged_bytes (inp : List UInt8) (G : Prop) (fuel : Nat) (r : Fastq.Reader)
    (items : List FqItem) (hg : Fastq.Good inp G r items) (hfuel : r.br.src.inp.length + 2 ≤ fuel)
    (hok : (Fastq.next fuel r).2 = .ok true) :
    ∃ (x : FqRec) (rest : List FqItem), items = .record x :: rest ∧
      Fastq.Good inp G (Fastq.next fuel r).1 rest ∧ (Fastq.next fuel r).1.byte = x.byte ∧
      Fastq.writeUnchanged (Fastq.next fuel r).1.br.buf (Fastq.next fuel r).1.bp = some (Unchanged.rawFq inp x ++ [LF]) ∧
      Unchanged.rawFq inp x =
        (inp.drop x.byte).take ((Fastq.next fuel r).1.bp.pos1 - (Fastq.next fuel r).1.bp.pos0) :=
  Fastq.Unch.fastq_unchanged_bytes inp G fuel r items hg hfuel hok

/-- end to end: reading a well-formed LF or CRLF file (with or without final terminator) with the
FASTQ machine at any capacity, policy and chunking and writing every record unchanged reproduces the
file, plus an LF if the last line was unterminated -/
theorem fastq_unchanged_reproduces_file (recs : List Recode.FqContent) (hok : Recode.FqOk recs)
    (t : Recode.Term) (final : Bool) (cap : Nat) (hcap : 3 ≤ cap) (pol : Pol) (hpol : Fastq.PolGrows pol)
    (script : List ReadEv) (hs : FillProofs.NoFail script) (chunk : Nat) (k : Nat) (hk : recs.length ≤ k) :
    Fastq.Unch.runWrites k (Fastq.mkReader (Recode.encodeFastq recs t final) cap pol script chunk) =
      some (Recode.encodeFastq recs t final ++ (if final || recs.isEmpty then [] else [LF])) :=
  Fastq.Unch.fastq_write_unchanged_file recs hok t final cap hcap pol hpol script hs chunk k hk

/-- trailing blank lines are dropped -/
theorem fastq_unchanged_drops_trailing_blank (recs : List Recode.FqContent) (hok : Recode.FqOk recs)
    (t : Recode.Term) (trail : Nat) (htrail : trail ≤ 2) :
    (Spec.fastq (Recode.encodeFastq recs t true ++ (List.replicate trail t.bytes).flatten)).flatMap
        (Unchanged.fqOut (Recode.encodeFastq recs t true ++ (List.replicate trail t.bytes).flatten)) =
      Recode.encodeFastq recs t true :=
  Unchanged.fastq_unchanged_trailing recs hok t trail htrail

/-- FASTA counterpart (S level): the records' extents (plus LF) concatenate to the file, plus an LF if
the last line was unterminated – for any per-line mixture of terminators -/
theorem fasta_unchanged_reproduces_file (recs : List (List UInt8 × List (List UInt8))) (hok : Recode.FaOk recs)
    (terms : Nat → Recode.Term) (final : Bool) :
    ∃ rs, Spec.fasta (Recode.encodeFasta recs terms final) = .records rs ∧
      rs.flatMap (Unchanged.faOut (Recode.encodeFasta recs terms final)) =
        Recode.encodeFasta recs terms final ++ (if final || recs.isEmpty then [] else [LF]) :=
  Unchanged.fasta_unchanged_concat recs hok terms final

/-- FASTA, M level: after any successful `next()` the machine's `write_unchanged` emits the record's
original bytes (header line and sequence lines with their own line ends), plus LF unless those bytes
already end in LF – which happens exactly when the record's last line is blank, so a trailing blank
line of a record is normalised away, as the property allows.  `Fasta.InvR inp r rest` (`Proofs/FastaStream.lean`):
`r` is a state between `next()` calls on `inp`, `rest` the observations S still prescribes for the calls to come –
here those of the records `x :: rest`. -/
theorem fasta_write_unchanged_bytes (inp : List UInt8) (fuel : Nat) (r : Fasta.Reader) (x : FaRec)
    (rest : List FaRec) (hg : Fasta.InvR inp r ((x :: rest).map Fasta.toObs))
    (hfuel : r.br.src.inp.length < fuel) (hok : (Fasta.next fuel r).2 = .ok true) :
    Fasta.InvR inp (Fasta.next fuel r).1 (rest.map Fasta.toObs) ∧ (Fasta.next fuel r).1.byte = x.byte ∧
    Fasta.writeUnchanged (Fasta.next fuel r).1.br.buf (Fasta.next fuel r).1.bp = some (Fasta.Unch.faEmit inp x) ∧
    (x.seqLines.getLast? ≠ some [] →
      Fasta.writeUnchanged (Fasta.next fuel r).1.br.buf (Fasta.next fuel r).1.bp =
        some (Unchanged.rawFa inp x ++ [LF])) :=
  Fasta.Unch.fasta_unchanged_bytes inp fuel r x rest hg hfuel hok

/-- FASTA, M level, whole stream: for every input S accepts and every configuration, `next()` /
`write_unchanged` in a loop writes the normalised extents of S's records in order -/
theorem fasta_write_unchanged_stream (inp : List UInt8) (rs : List FaRec)
    (hrs : Spec.fasta inp = .records rs) (cap : Nat) (hcap : 3 ≤ cap) (pol : Pol)
    (hpol : Fasta.PolGrows pol) (script : List ReadEv) (hs : FillProofs.NoFail script) (chunk : Nat) (k : Nat) :
    Fasta.Unch.runWrites k (Fasta.mkReader inp cap pol script chunk) =
      some ((rs.take k).flatMap (Fasta.Unch.faEmit inp)) :=
  (Fasta.Unch.fasta_write_unchanged_stream inp rs hrs cap hcap pol hpol script hs chunk k).1

/-- FASTA, end to end at the M level: reading a well-formed file (any per-line mixture of LF and CRLF,
with or without final terminator) at any capacity ≥ 3, growing policy, failure-free script and
chunking, and writing every record unchanged reproduces the file byte for byte (plus LF if the last
line had no terminator) -/
theorem fasta_write_unchanged_file (recs : List (List UInt8 × List (List UInt8)))
    (hok : Recode.FaOk recs) (terms : Nat → Recode.Term) (final : Bool) (cap : Nat) (hcap : 3 ≤ cap)
    (pol : Pol) (hpol : Fasta.PolGrows pol) (script : List ReadEv) (hs : FillProofs.NoFail script) (chunk : Nat)
    (k : Nat) (hk : recs.length ≤ k) :
    Fasta.Unch.runWrites k (Fasta.mkReader (Recode.encodeFasta recs terms final) cap pol script chunk) =
      some (Recode.encodeFasta recs terms final ++ (if final || recs.isEmpty then [] else [LF])) :=
  Fasta.Unch.fasta_write_unchanged_file recs hok terms final cap hcap pol hpol script hs chunk k hk

/-- the blank-line normalisation on a concrete input: `>a⏎⏎>b⏎` is written back as `>a⏎>b⏎` -/
example : Fasta.Unch.runWrites 3 (Fasta.mkReader [62, 97, 10, 10, 62, 98, 10] 3 PolDesc.std.toPol [] 2) =
    some [62, 97, 10, 62, 98, 10] := by decide

/-- end to end: a record written by `fastq::write_to` and read back by the FASTQ reader at ANY capacity ≥ 3,
never-refusing policy and chunking is exactly that record, then end of input (composition with C02) -/
theorem fastq_written_record_reads_back (h s q : List UInt8) (hh : HeadOk h) (hsq : FieldOk s) (hq : FieldOk q)
    (hl : s.length = q.length) (cap : Nat) (hcap : 3 ≤ cap) (pol : Pol) (hpol : PolOk pol)
    (script : List ReadEv) (hs : FillProofs.NoFail script) (chunk k : Nat) :
    Fastq.runNexts k (Fastq.mkReader (Write.fqTo h s q) cap pol script chunk) =
      ([Fastq.Obs.record h s q 1 0] ++ List.replicate k Fastq.Obs.none).take k :=
  E2E.fastq_written_record_reads_back h s q hh hsq hq hl cap hcap pol hpol script hs chunk k

end SeqIo.Thm.C11
