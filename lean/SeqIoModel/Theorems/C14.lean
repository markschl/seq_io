import SeqIoModel.Proofs.Fill
import SeqIoModel.Proofs.FastaFault
import SeqIoModel.Proofs.FastqFault
/-!
# C14 – source errors surface unchanged; interrupted reads are invisible

Every read of the source made by either reader goes through `fill_buf` (`init`/`first_byte`,
`resume_incomplete_search`, `seek`); `Model/Fasta.lean` and `Model/Fastq.lean` map its error `k`
to `Err.io k` of the very operation that called it and return at once (by definition of `next`,
`resume`, `seek` – see the `.error k => (…, .err (.io k))` arms).  First the behaviour of `fill_buf`
itself for every script, then the reader level: arbitrary histories over scripts with failures.
-/

namespace SeqIo.Thm.C14
open SeqIo SeqIo.FillProofs

/-- Complete description of one `fill_buf` call for EVERY read script: on success exactly
`min(free space, remaining input)` bytes are appended whatever the script said (interrupted reads
and short reads are invisible); on failure the kind is that of the FIRST failing event, and the
bytes read before it stay in the buffer (nothing is lost, nothing is turned into end of input). -/
theorem fill_buf_behaviour (b : BufRd) :
    match fillBuf b with
    | (b', .ok n) =>
        n = min (b.cap - b.buf.length) b.src.remaining ∧
        b'.buf = b.buf ++ (b.src.inp.drop b.src.cursor).take n ∧
        b'.cap = b.cap ∧ b'.src.inp = b.src.inp ∧ b'.src.cursor = b.src.cursor + n ∧
        b'.src.chunk = b.src.chunk ∧ b'.src.seekFails = b.src.seekFails ∧ b'.src.seekCount = b.src.seekCount ∧
        (∃ used, b.src.script = used ++ b'.src.script ∧ NoFail used)
    | (b', .error k) =>
        ∃ used rest m, b.src.script = used ++ ReadEv.fail k :: rest ∧ NoFail used ∧ b'.src.script = rest ∧
          m ≤ min (b.cap - b.buf.length) b.src.remaining ∧
          b'.buf = b.buf ++ (b.src.inp.drop b.src.cursor).take m ∧
          b'.cap = b.cap ∧ b'.src.inp = b.src.inp ∧ b'.src.cursor = b.src.cursor + m :=
  fillBuf_spec b

/-- a script without failing events can never produce an error -/
theorem no_fail_no_error (b : BufRd) (h : NoFail b.src.script) : ∃ b' n, fillBuf b = (b', .ok n) :=
  fillBuf_noFail_ok b h

/-- interrupted reads are invisible: without failing events the result does not depend on the
script or the chunk limit at all -/
theorem interrupted_invisible (b : BufRd) (script : List ReadEv) (chunk : Nat)
    (h1 : NoFail b.src.script) (h2 : NoFail script) :
    let b2 : BufRd := { b with src := { b.src with script := script, chunk := chunk } }
    (fillBuf b).1.buf = (fillBuf b2).1.buf ∧ (fillBuf b).2 = (fillBuf b2).2 ∧
    (fillBuf b).1.src.cursor = (fillBuf b2).1.src.cursor :=
  fillBuf_chunk_independent b script chunk h1 h2

/-- Reader level (FASTA), for every input, capacity, growing policy, ARBITRARY read script and history
of operations (reads of all kinds, set iteration, positions, seeks).
If no I/O error is observed the whole history is accepted by the abstract reader.
Everything observed before the first I/O error is accepted by the abstract reader – exactly the
leading records, nothing invented, no premature end of input, no format error out of thin air – and that
first I/O error carries the kind of the FIRST failing event of the script.
A script without failing events (any chunking, any pattern of interrupted reads) never produces an
I/O error. -/
theorem fasta_first_fault_surfaces (inp : List UInt8) (cap : Nat) (hcap : 3 ≤ cap) (pol : Pol)
    (hpol : Fasta.PolGrows pol) (script : List ReadEv) (chunk : Nat) (ops : List Fasta.Hist.Op) :
    ((∀ o ∈ Fasta.Hist.runM (Fasta.Hist.mkMSt inp cap pol script chunk) ops, Fasta.Fault.isIoErr o = false) →
      Fasta.Hist.runA (Fasta.Hist.items inp) Fasta.Hist.aInit ops
        (Fasta.Hist.runM (Fasta.Hist.mkMSt inp cap pol script chunk) ops) = true) ∧
    (∀ j o, (Fasta.Hist.runM (Fasta.Hist.mkMSt inp cap pol script chunk) ops)[j]? = some o →
      Fasta.Fault.isIoErr o = true →
      (∀ i o', i < j → (Fasta.Hist.runM (Fasta.Hist.mkMSt inp cap pol script chunk) ops)[i]? = some o' →
        Fasta.Fault.isIoErr o' = false) →
      Fasta.Hist.runA (Fasta.Hist.items inp) Fasta.Hist.aInit (ops.take j)
        ((Fasta.Hist.runM (Fasta.Hist.mkMSt inp cap pol script chunk) ops).take j) = true ∧
      ∃ used k rest, script = used ++ .fail k :: rest ∧ NoFail used ∧ o = .error (.io k)) ∧
    (NoFail script → ∀ o ∈ Fasta.Hist.runM (Fasta.Hist.mkMSt inp cap pol script chunk) ops,
      Fasta.Fault.isIoErr o = false) :=
  Fasta.Fault.fasta_first_fault_surfaces inp cap hcap pol hpol script chunk ops

/-- Reader level (FASTQ), histories with seeks, the seeks themselves not scripted to fail: everything
before the first I/O error is accepted by the abstract reader; that error carries the kind of the first
failing read event; without failing events no I/O error is ever observed.  (With scripted seek failures
as well: `Fastq.Fault.fastq_first_fault_surfaces` in `Proofs/FastqFault.lean`, where a failed seek
carries the kind scripted for that very seek call.) -/
theorem fastq_first_fault_surfaces (inp : List UInt8) (cap : Nat) (hcap : 3 ≤ cap) (pol : Pol)
    (hpol : Fastq.PolGrows pol) (script : List ReadEv) (chunk : Nat)
    (ops : List Fastq.Hist.Op) (hops : ∀ op ∈ ops, op.wf = true) :
    ((∀ o ∈ Fastq.Hist.runM (Fastq.Hist.mkM inp cap pol script chunk) ops, Fastq.Fault.isIoErr o = false) →
      Fastq.Hist.acceptsA (Spec.fastq inp) {} ops (Fastq.Hist.runM (Fastq.Hist.mkM inp cap pol script chunk) ops) = true) ∧
    (∀ j o, (Fastq.Hist.runM (Fastq.Hist.mkM inp cap pol script chunk) ops)[j]? = some o →
      Fastq.Fault.isIoErr o = true →
      (∀ i o', i < j → (Fastq.Hist.runM (Fastq.Hist.mkM inp cap pol script chunk) ops)[i]? = some o' →
        Fastq.Fault.isIoErr o' = false) →
      Fastq.Hist.acceptsA (Spec.fastq inp) {} (ops.take j)
        ((Fastq.Hist.runM (Fastq.Hist.mkM inp cap pol script chunk) ops).take j) = true ∧
      ∃ used k rest, script = used ++ .fail k :: rest ∧ NoFail used ∧ o = .error (.io k)) ∧
    (NoFail script → ∀ o ∈ Fastq.Hist.runM (Fastq.Hist.mkM inp cap pol script chunk) ops,
      Fastq.Fault.isIoErr o = false) :=
  Fastq.Fault.fastq_first_fault_surfaces_read inp cap hcap pol hpol script chunk ops hops

end SeqIo.Thm.C14
