import SeqIoModel.Proofs.FastaStream
/-!
# C01 – FASTA reading returns exactly the records the format rules define

`Fasta.runNexts k r` = what a caller sees from `k` consecutive `next()` calls of the concrete machine
M (`Model/Fasta.lean`, function-by-function mirror of `fasta.rs`); `Fasta.specObs inp` = the stream the
reference semantics S prescribes (`Model/Spec.lean`, line-based, no buffers).
-/

namespace SeqIo.Thm.C01
open SeqIo SeqIo.Fasta SeqIo.FillProofs

/-- For EVERY input, capacity ≥ 3, never-refusing policy, read script without failures (any chunking,
any pattern of interrupted reads) and number of calls: the reader returns exactly S's records – header,
sequence lines, 1-based line number and byte offset – in order, or S's single invalid-start error,
followed by end of input forever.  No panic, no fuel exhaustion, no buffer-limit error. -/
theorem fasta_reading_is_spec (inp : List UInt8) (cap : Nat) (hcap : 3 ≤ cap) (pol : Pol) (hpol : PolOk pol)
    (script : List ReadEv) (hs : NoFail script) (chunk : Nat) (k : Nat) :
    runNexts k (mkReader inp cap pol script chunk) = (specObs inp ++ List.replicate k Obs.none).take k :=
  fasta_next_stream inp cap hcap pol hpol script hs chunk k

/-- The invariant behind it (`Proofs/FastaStream.lean`).  `InvR inp r rest`: `r` is a state between
`next()` calls on `inp` and `rest` is what S still prescribes for the calls to come;
`InvW inp r = ∃ rest, InvR inp r rest`; `Inv inp r = InvW inp r ∧ PolGrows r.pol` (the policy never
refuses).  Every `next()` call preserves `Inv`, and from it: no panic, enough fuel, no buffer-limit
error. -/
theorem next_total (inp : List UInt8) (r : Reader) (fuel : Nat) (hi : Inv inp r) (hf : inp.length < fuel) :
    Inv inp (next fuel r).1 ∧ (next fuel r).2 ≠ .panic ∧ (next fuel r).2 ≠ .fuel ∧
      (next fuel r).2 ≠ .err .bufferLimit :=
  ⟨next_preserves_inv hi hf, no_panic hi hf, fuel_enough hi hf, no_bufferLimit hi hf⟩

/-- the record scan does not depend on the window it runs in (found case) -/
theorem scan_window_independent_found (win ext : List UInt8) (i : Nat) (acc : List Nat)
    (sp : Nat) (acc1 : List Nat) (h : scan win i acc = (true, sp, acc1)) :
    scan (win ++ ext) i acc = (true, sp, acc1) :=
  scan_resume_found win ext i acc sp acc1 h

/-- … and an unfinished scan resumed from the stored offsets equals a scan from the start -/
theorem scan_window_independent_resume (win ext : List UInt8) (i : Nat) (acc : List Nat)
    (sp : Nat) (acc1 : List Nat) (h : scan win i acc = (false, sp, acc1)) :
    scan (win ++ ext) i acc = scan (win.drop (sp - i) ++ ext) sp acc1 :=
  scan_resume_notfound win ext i acc sp acc1 h

/-- non-vacuity: a policy satisfying the hypothesis exists, and the theorem speaks about real records -/
example : PolOk (PolDesc.add 1).toPol := by
  intro h cur
  refine ⟨cur + 1, ?_, by omega⟩
  simp [PolDesc.toPol]

example : specObs [62, 97, 10, 65, 67, 10, 62, 98] =
    [.record [97] [[65, 67]] 1 0, .record [98] [] 3 6] := by decide

end SeqIo.Thm.C01
